import MosdnsVerif.Base.Go

/-! The two bytes of a 16-bit big-endian length: `UInt16` operations as arithmetic. -/
namespace Lemmas.Bits

theorem u16_hi (n : Nat) (h : n < 65536) : ((UInt16.ofNat n) >>> 8).toUInt8 = UInt8.ofNat (n / 256) := by
  apply UInt8.toNat_inj.mp
  simp [UInt16.toNat_shiftRight, Nat.shiftRight_eq_div_pow, Nat.mod_eq_of_lt h]

theorem u16_lo (n : Nat) : (UInt16.ofNat n).toUInt8 = UInt8.ofNat (n % 256) := by
  apply UInt8.toNat_inj.mp
  simp

theorem u16_of_hi_lo (x y : UInt8) : ((x.toUInt16 <<< 8) ||| y.toUInt16).toNat = x.toNat * 256 + y.toNat := by
  have hx := x.toNat_lt
  have hy := y.toNat_lt
  simp [UInt16.toNat_or, UInt16.toNat_shiftLeft]
  -- the shifted byte fits in 16 bits and shares no bit with the low byte
  show x.toNat <<< 8 % 65536 ||| y.toNat = x.toNat * 256 + y.toNat
  rw [Nat.mod_eq_of_lt (by rw [Nat.shiftLeft_eq]; omega), ← Nat.shiftLeft_add_eq_or_of_lt (by omega), Nat.shiftLeft_eq]

end Lemmas.Bits

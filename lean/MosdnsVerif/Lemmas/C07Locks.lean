import MosdnsVerif.Model.C07

/-! Kernel-evaluated exploration of the lock protocols of C07 (no dependency on
regenerated files: rebuilt only when the model changes). -/
namespace Lemmas.C07Locks
open Model.C07

def reuseInit : Sys := Sys.init reuseProgs 1 1 0
def reuseR : List Sys := explore reuseProgs 100 [reuseInit] [reuseInit]
def pipeInit : Sys := Sys.init pipeProgs 3 0 2
def pipeR : List Sys := explore pipeProgs 100 [pipeInit] [pipeInit]

def closedUnder (progs : List (List Act)) (R : List Sys) : Bool := R.all (fun s => (s.next progs).all (fun s' => R.contains s'))
def noDeadlock (progs : List (List Act)) (R : List Sys) : Bool := R.all (fun s => !s.deadlocked progs)

/-! `explore` tests every candidate against every state seen so far, and that scan is nearly all of what the search costs the
kernel. `explore?` is the same search with an index beside `seen`: the states by the sum of their program counters. A candidate is
looked for in its own bucket only, and `round_eq` says that this is `explore`'s test. -/

def key (s : Sys) : Nat := s.pcs.sum

/-- The bucket the index has for a key, if it has one, holds the states of `all` with that key. -/
def Indexes (idx : List (List Sys)) (all : List Sys) : Prop :=
  ∀ s b, idx[key s]? = some b → (s ∈ b ↔ s ∈ all)

theorem Indexes.insert {idx : List (List Sys)} {all : List Sys} (h : Indexes idx all) (s : Sys) :
    Indexes (idx.modify (key s) (s :: ·)) (s :: all) := by
  intro x b hb
  by_cases hk : key s = key x
  · rw [← hk, List.getElem?_modify_eq] at hb
    obtain ⟨b', hb', rfl⟩ := Option.map_eq_some_iff.mp hb
    rw [List.mem_cons, List.mem_cons, h x b' (hk ▸ hb')]
  · rw [List.getElem?_modify_ne _ _ hk] at hb
    rw [h x b hb, List.mem_cons, or_iff_right fun e => hk (congrArg key e.symm)]

/-- whether `s` is among `acc` or `seen`, by the index where it has a bucket for `s` -/
def known (idx : List (List Sys)) (acc seen : List Sys) (s : Sys) : Bool :=
  match idx[key s]? with
  | some b => b.contains s
  | none => acc.contains s || seen.contains s

theorem known_eq {idx : List (List Sys)} {acc seen : List Sys} (h : Indexes idx (acc ++ seen)) (s : Sys) :
    known idx acc seen s = (acc.contains s || seen.contains s) := by
  unfold known
  split
  next b hb => rw [Bool.eq_iff_iff]; simp [h s b hb]
  next => rfl

/-- the step of `explore`'s fold over the candidates: one that is new joins `acc` -/
def addNew (seen acc : List Sys) (s : Sys) : List Sys := if acc.contains s || seen.contains s then acc else s :: acc

/-- ... and of `explore?`'s, which also enters it into the index -/
def addNewIdx (seen : List Sys) (p : List Sys × List (List Sys)) (s : Sys) : List Sys × List (List Sys) :=
  if known p.2 p.1 seen s then p else (s :: p.1, p.2.modify (key s) (s :: ·))

theorem round_eq (seen : List Sys) (cands : List Sys) : ∀ (acc : List Sys) (idx : List (List Sys)), Indexes idx (acc ++ seen) →
    (cands.foldl (addNewIdx seen) (acc, idx)).1 = cands.foldl (addNew seen) acc ∧
      Indexes (cands.foldl (addNewIdx seen) (acc, idx)).2 ((cands.foldl (addNewIdx seen) (acc, idx)).1 ++ seen) := by
  induction cands with
  | nil => exact fun _ _ h => ⟨rfl, h⟩
  | cons c cs ih =>
    intro acc idx h
    simp only [List.foldl_cons, addNewIdx, addNew, known_eq h]
    split
    · exact ih acc idx h
    · exact ih (c :: acc) _ (h.insert c)

/-- `explore` that also says whether it ran to the end: `none` when the fuel ran out with states still to visit. -/
def explore? (progs : List (List Act)) : Nat → List Sys → List Sys → List (List Sys) → Option (List Sys)
  | 0, _, _, _ => none
  | fuel + 1, frontier, seen, idx =>
    let r := (frontier.flatMap (·.next progs)).foldl (addNewIdx seen) ([], idx)
    if r.1.isEmpty then some seen else explore? progs fuel r.1 (r.1 ++ seen) r.2

/-- A round of the search folds the successors `cands` of the frontier into the list of new states, leaving out what is in it
already or in `seen`. So every candidate ends up among the new states unless it had been seen before. -/
theorem mem_round (seen : List Sys) {cands : List Sys} (acc : List Sys) {x : Sys} (h : x ∈ acc ∨ x ∈ cands) :
    x ∈ cands.foldl (addNew seen) acc ∨ x ∈ seen := by
  induction cands generalizing acc with
  | nil => exact .inl (by simpa using h)
  | cons c cs ih =>
    rw [List.foldl_cons, addNew]
    rcases h with h | h
    · exact ih _ (.inl (by split <;> simp [h]))
    · rcases List.mem_cons.mp h with rfl | h
      · by_cases hs : x ∈ seen
        · exact .inr hs
        · by_cases ha : x ∈ acc
          · exact ih _ (.inl (by simp [ha]))
          · exact ih _ (.inl (by simp [ha, hs]))
      · exact ih _ (.inr h)

/-- Breadth-first search is sound: its result is closed under `next`. So the kernel runs the search and need not check closure
state by state afterwards, which is the dearer of the two. The hypotheses are the invariant of the search: the index is that of
`seen`, and a state seen so far is still in the frontier, or has all its successors in `seen`. -/
theorem explore?_sound (progs : List (List Act)) : ∀ (fuel : Nat) (frontier seen R : List Sys) (idx : List (List Sys)),
    Indexes idx seen → (∀ s ∈ seen, s ∈ frontier ∨ ∀ s' ∈ s.next progs, s' ∈ seen) → explore? progs fuel frontier seen idx = some R →
    explore progs fuel frontier seen = R ∧ (∀ s ∈ seen, s ∈ R) ∧ closedUnder progs R = true := by
  intro fuel
  induction fuel with
  | zero => intro _ _ _ _ _ _ h; cases h
  | succ fuel ih =>
    intro frontier seen R idx hidx hpre h
    obtain ⟨hnew', hidx'⟩ := round_eq seen (frontier.flatMap (·.next progs)) [] idx hidx
    have hfold : (fun (acc : List Sys) s => if acc.contains s || seen.contains s then acc else s :: acc) = addNew seen := rfl
    simp only [explore?, hnew', explore, hfold] at h ⊢
    have hnew := fun x (hx : x ∈ frontier.flatMap (·.next progs)) => mem_round seen [] (.inr hx)
    split at h
    next he =>
      -- no new state: the search ends with `seen`
      cases h
      rw [if_pos he]
      refine ⟨rfl, fun _ h => h, ?_⟩
      simp only [closedUnder, List.all_eq_true, List.contains_eq_mem, decide_eq_true_eq]
      intro s hs s' hs'
      rcases hpre s hs with hf | hc
      · have := hnew s' (List.mem_flatMap.mpr ⟨s, hf, hs'⟩)
        rw [List.isEmpty_iff.mp he] at this
        simpa using this
      · exact hc s' hs'
    next he =>
      -- the search goes on with the new states as the frontier
      rw [if_neg he]
      have := ih _ _ R _ (hnew' ▸ hidx') ?_ h
      · exact ⟨this.1, fun s hs => this.2.1 s (List.mem_append_right _ hs), this.2.2⟩
      · intro s hs
        rcases List.mem_append.mp hs with hn | ho
        · exact .inl hn
        · refine (hpre s ho).elim (fun hf => .inr fun s' hs' => ?_) (fun hc => .inr fun s' hs' => List.mem_append_right _ (hc s' hs'))
          exact List.mem_append.mpr (hnew s' (List.mem_flatMap.mpr ⟨s, hf, hs'⟩))

/-- the index the search starts with: `init` in its bucket. 32 buckets are more than the sums the two protocols reach; beyond
them `known` scans `acc` and `seen` as `explore` does. -/
def index (init : Sys) : List (List Sys) := (List.replicate 32 []).modify (key init) (init :: ·)

theorem index_indexes (init : Sys) : Indexes (index init) [init] :=
  Indexes.insert (fun s b hb => by
    rw [List.getElem?_replicate] at hb
    split at hb <;> cases hb   -- every bucket is empty
    rfl) init

/-- One evaluation gives the three facts about the explored set that `Props.C07.never_deadlocks` needs. `100` is the fuel that
`reuseR` and `pipeR` are defined with; that `explore?` answers `some` says it was enough. -/
theorem check_of_explore? {progs : List (List Act)} {init : Sys}
    (h : (explore? progs 100 [init] [init] (index init)).any (noDeadlock progs) = true) :
    ((explore progs 100 [init] [init]).contains init && closedUnder progs (explore progs 100 [init] [init]) &&
      noDeadlock progs (explore progs 100 [init] [init])) = true := by
  cases hR : explore? progs 100 [init] [init] (index init) with
  | none => simp [hR] at h
  | some R =>
    obtain ⟨h1, h2, h3⟩ := explore?_sound progs 100 [init] [init] R _ (index_indexes init) (fun s hs => .inl hs) hR
    rw [hR] at h
    simp only [Option.any_some] at h
    simp [h1, h3, h, h2 init (List.mem_singleton.mpr rfl)]

theorem reuse_check : (reuseR.contains reuseInit && closedUnder reuseProgs reuseR && noDeadlock reuseProgs reuseR) = true :=
  check_of_explore? (by decide +kernel)
theorem pipe_check : (pipeR.contains pipeInit && closedUnder pipeProgs pipeR && noDeadlock pipeProgs pipeR) = true :=
  check_of_explore? (by decide +kernel)

end Lemmas.C07Locks

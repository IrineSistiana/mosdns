import MosdnsVerif.Lemmas.C20Inv.Core

/-! `Model.C20.inv` is inductive at every raw state, for every configuration with `sendFirst`: `step_ok`, and `inv_ok`, which is
what `Props/C20` uses. `inv` is split into the workers' clauses and the caller's (`inv_eq`). The workers keep theirs by an
argument (`worker_ok`): a worker's step leaves the queue as it is (`quiet_ok`), or is the secondary's send (`sendSec_ok`), or the
primary's next operation (`primOp_ok`). The caller's side is the two sweeps of `Core.lean`, run from a state that stands for its
view (`step_view`); `worker_step` and `caller_step` put the two together. -/
namespace Lemmas.C20Inv
open Model.C20

theorem inv_eq (c : Cfg) (s : St) : inv c s = (invW c s && invC c (view c s) s.recvd s.result) := by
  simp only [inv, invW, invC, ordered, view, Bool.and_assoc]
  rfl

/-- The workers' clauses as propositions. -/
theorem invW_iff {c : Cfg} {s : St} : invW c s = true ↔
    (secStarted s = true → c.standby = true ∨ primFailed c s = true ∨ s.timer = true) ∧
    (sSent s = true → c.sAns = true → s.sqExcuse = true ∨ pSent c s = true ∧ s.pFirst = true ∧ c.pAns = true) ∧
    (pSent c s = true → sSent s = false → s.pFirst = true) := by
  simp [invW, ordered, view, or_assoc, and_assoc, Decidable.imp_iff_not_or, or_left_comm]

theorem inv_workers {c : Cfg} {s : St} (h : inv c s = true) : invW c s = true :=
  (Bool.and_eq_true_iff.1 (inv_eq c s ▸ h)).1

/-! The clauses of `inv` that are read by name, here and in `Props/C20`. -/

theorem inv_start {c : Cfg} {s : St} (h : inv c s = true) (hs : secStarted s = true) :
    c.standby = true ∨ primFailed c s = true ∨ s.timer = true :=
  (invW_iff.1 (inv_workers h)).1 hs

theorem inv_queued {c : Cfg} {s : St} (h : inv c s = true) (hs : sSent s = true) :
    c.sAns = false ∨ s.sqExcuse = true ∨ (pSent c s = true ∧ s.pFirst = true ∧ c.pAns = true) := by
  simpa [Decidable.imp_iff_not_or] using (invW_iff.1 (inv_workers h)).2.1 hs

theorem inv_order {c : Cfg} {s : St} (h : inv c s = true) (hp : pSent c s = true) (hf : s.pFirst = false) :
    sSent s = true := by
  simpa [hf] using (invW_iff.1 (inv_workers h)).2.2 hp

theorem inv_prim {c : Cfg} {s : St} (h : inv c s = true) (hr : s.result = .prim) : c.pAns = true := by
  simp only [inv, Bool.and_eq_true, and_assoc] at h
  obtain ⟨-, -, -, -, -, -, h, -⟩ := h
  exact (by simpa [hr] using h : c.pAns = true ∧ _).1

theorem inv_sec {c : Cfg} {s : St} (h : inv c s = true) (hr : s.result = .sec) :
    c.sAns = true ∧ sSent s = true ∧ (c.pAns && pSent c s && s.pFirst) = false := by
  simp only [inv, Bool.and_eq_true, and_assoc] at h
  obtain ⟨-, -, -, -, -, -, -, h, -⟩ := h
  simpa only [hr, bne_self_eq_false, Bool.false_or, Bool.and_eq_true, Bool.not_eq_true', and_assoc] using h

theorem inv_failed {c : Cfg} {s : St} (h : inv c s = true) (hr : s.result = .failed) : c.pAns = false ∧ c.sAns = false := by
  simp only [inv, Bool.and_eq_true, and_assoc] at h
  obtain ⟨-, -, -, -, -, -, -, -, h, -⟩ := h
  exact (by simpa [hr] using h : (c.pAns = false ∧ c.sAns = false) ∧ _).1

/-- what the caller's steps write -/
def callerFields (s : St) : Fin 3 × Res := (s.recvd, s.result)

theorem step_pOp {c : Cfg} {s s' : St} (h : step c s .pOp = some s') :
    ∃ n : Fin 4, s.pPc.val ≤ n.val ∧ s' = primOp c s n := by
  simp only [step] at h
  (repeat' split at h) <;> cases h <;> exact ⟨_, by omega, rfl⟩

/-- A worker's step leaves the caller's two fields as they are. -/
theorem step_col {c : Cfg} {l : Label} {s s' : St} (hl : isCaller l = false) (h : step c s l = some s') :
    s'.recvd = s.recvd ∧ s'.result = s.result := by
  cases l
  case mRecv | mCtx => cases hl
  case pOp =>
    obtain ⟨n, -, rfl⟩ := step_pOp h
    simp only [primOp]
    split <;> exact ⟨rfl, rfl⟩
  all_goals
    simp only [step, Option.ite_none_right_eq_some, Option.some.injEq] at h
    obtain ⟨-, rfl⟩ := h
    exact ⟨rfl, rfl⟩

theorem moves_refl (v : View) : moves v v = true := by
  obtain ⟨p, q, f⟩ := v
  cases p <;> cases q <;> cases f <;> rfl

theorem goodStart_of {c : Cfg} {s s' : St}
    (h : secStarted s' = true → secStarted s = true ∨ c.standby = true ∨ primFailed c s = true ∨ s.timer = true) :
    goodStart c s s' = true := by
  simpa [goodStart, or_assoc, Decidable.imp_iff_not_or, or_left_comm] using h

/-- A step that leaves the queue as it is (the view and the excuse), withdraws no excuse for a start (`hf`, `ht`) and lets
the secondary start only with one (`hg`): the second and third clause read nothing else. -/
theorem quiet_ok {c : Cfg} {s s' : St} (hw : invW c s = true) (hv : view c s' = view c s) (hq : s'.sqExcuse = s.sqExcuse)
    (hf : primFailed c s = true → primFailed c s' = true) (ht : s.timer = true → s'.timer = true)
    (hg : secStarted s' = true → secStarted s = true ∨ c.standby = true ∨ primFailed c s = true ∨ s.timer = true) :
    invW c s' = true ∧ goodStart c s s' = true ∧ moves (view c s) (view c s') = true := by
  obtain ⟨h1, h2, h3⟩ := invW_iff.1 hw
  obtain ⟨ep, es, ef⟩ := View.mk.inj hv
  refine ⟨?_, goodStart_of hg, hv ▸ moves_refl _⟩
  rw [invW_iff, ep, es, ef, hq]
  exact ⟨fun h => ((hg h).elim h1 id).imp_right (.imp hf ht), h2, h3⟩

/-- The secondary's send, from the second select (`hg`: what one of its cases saw) or without waiting. The one place where
`sendFirst` is used. -/
theorem sendSec_ok {c : Cfg} (hsf : c.sendFirst = true) {s : St} (hw : invW c s = true) (hst : secStarted s = true)
    (h0 : sSent s = false)
    (hg : c.standby = true → c.sAns = true →
      primDone c s = true ∨ primFailed c s = true ∨ s.timer = true ∨ s.secCtx = true) :
    invW c (sendSec c s) = true ∧ goodStart c s (sendSec c s) = true ∧ moves (view c s) (view c (sendSec c s)) = true := by
  obtain ⟨h1, -, h3⟩ := invW_iff.1 hw
  refine ⟨invW_iff.2 ⟨fun _ => h1 hst, fun _ ha => ?_, fun _ h => nomatch h⟩, goodStart_of fun _ => .inl hst, ?_⟩
  · -- an answer is queued: without standby the first clause has the excuse, with it `hg` has it, or `primDone`
    rcases (h1 hst).elim (hg · ha) fun h => .inr (h.imp_right .inl) with h | h
    · -- `primDone` is closed after the send (`hsf`): the primary's answer is in the queue, and by the third clause it is first
      simp only [primDone, hsf, if_true, Bool.and_eq_true, beq_iff_eq] at h
      have hp : pSent c s = true := by simp [pSent, h]
      exact .inr ⟨hp, h3 hp h0, h.1⟩
    · exact .inl (by simpa [sendSec, ha, or_assoc] using h)
  · show moves ⟨pSent c s, sSent s, _⟩ ⟨pSent c s, true, s.pFirst⟩ = true
    rw [h0]
    cases pSent c s <;> simp [moves]

/-- What the primary's program counter says of it only grows with the counter. -/
theorem prim_mono {c : Cfg} {s : St} {n : Fin 4} (hn : s.pPc.val ≤ n.val) :
    (pSent c s = true → pSent c { s with pPc := n } = true) ∧
      (primFailed c s = true → primFailed c { s with pPc := n } = true) := by
  have := n.isLt
  simp only [pSent, primFailed]
  split <;> simp +contextual <;> omega

/-- The primary's program counter moves on to `n`, wherever that is: `primOp` records the order if this makes it send. -/
theorem primOp_ok {c : Cfg} {s : St} {n : Fin 4} (hw : invW c s = true) (hn : s.pPc.val ≤ n.val) :
    invW c (primOp c s n) = true ∧ goodStart c s (primOp c s n) = true ∧ moves (view c s) (view c (primOp c s n)) = true := by
  obtain ⟨hp, hf⟩ := prim_mono (c := c) hn
  simp only [primOp]
  split
  next h =>
    -- the primary sends: it is first iff the secondary has not sent, and an answer of the secondary had its excuse
    obtain ⟨h1, h2, -⟩ := invW_iff.1 hw
    simp only [Bool.and_eq_true, Bool.not_eq_true'] at h
    refine ⟨invW_iff.2 ⟨fun h => (h1 h).imp_right (.imp_left hf),
      fun hs ha => (h2 hs ha).imp_right fun hp => absurd hp.1 (by simp [h.2]), fun _ hs => congrArg (!·) hs⟩,
      goodStart_of .inl, ?_⟩
    show moves ⟨pSent c s, _, _⟩ ⟨pSent c { s with pPc := n }, sSent s, !sSent s⟩ = true
    rw [h.1, h.2]
    simp [moves]
  next h =>
    -- it had sent already, or still has not
    have hv : pSent c { s with pPc := n } = pSent c s := Bool.eq_iff_iff.2 ⟨fun h' => by simpa [h'] using h, hp⟩
    exact quiet_ok hw (congrArg (View.mk · _ _) hv) rfl hf id .inl

/-- The workers keep their clauses, start the secondary only with an excuse, and move the view only forward. -/
theorem worker_ok {c : Cfg} (hsf : c.sendFirst = true) {l : Label} (hl : isCaller l = false) {s s' : St}
    (hw : invW c s = true) (hs : step c s l = some s') :
    invW c s' = true ∧ goodStart c s s' = true ∧ moves (view c s) (view c s') = true := by
  cases l
  case mRecv | mCtx => cases hl
  case pOp =>
    obtain ⟨n, hn, rfl⟩ := step_pOp hs
    exact primOp_ok hw hn
  all_goals
    simp only [step, Option.ite_none_right_eq_some, Option.some.injEq, Bool.and_eq_true, Bool.not_eq_true', decide_eq_true_eq] at hs
    obtain ⟨hg, rfl⟩ := hs
  -- `Exec` returns: the primary's operation that sends nothing
  case pFinish => simpa [primOp, pSent] using primOp_ok (n := 1) hw (by omega)
  case sSend | sWaitCtx | sWaitDone | sWaitFailed | sWaitTimer =>
    exact sendSec_ok hsf hw (by simp [secStarted, hg]) (by simp [sSent, hg]) (by intro hb ha; simp_all)
  case timerFire | ctxCancel | secCtxFire => exact quiet_ok hw rfl rfl id (by simp) .inl
  -- the secondary short of its send: the guard `hg` is the excuse where it starts
  all_goals exact quiet_ok hw (by simp +decide [view, pSent, sSent, hg]) rfl id id (by simp [secStarted, hg])

theorem worker_step {c : Cfg} (hsf : c.sendFirst = true) (hst : Stable c) {l : Label} (hl : isCaller l = false) {s s' : St}
    (hi : inv c s = true) (hs : step c s l = some s') :
    inv c s' = true ∧ goodStart c s s' = true ∧ moves (view c s) (view c s') = true := by
  rw [inv_eq, Bool.and_eq_true] at hi ⊢
  obtain ⟨hw, hg, hm⟩ := worker_ok hsf hl hi.1 hs
  obtain ⟨hr, hres⟩ := step_col hl hs
  refine ⟨⟨hw, ?_⟩, hg, hm⟩
  rw [hr, hres]
  exact hst _ _ _ _ _ _ (Bool.and_eq_true_iff.1 hi.1).2 hm _ _ hi.2

theorem view_rep (c : Cfg) (v : View) (r : Fin 3) (res : Res) (cd : Bool) : view c (rep v r res cd) = v := by
  obtain ⟨p, s, f⟩ := v
  obtain ⟨a, b, d, e⟩ := c
  cases a <;> cases e <;> cases p <;> cases s <;> rfl

/-- A caller's step reads the workers through the view, and beyond that `ctxDone` and its own two fields: two states that
agree there give the caller the same. -/
theorem step_view {c : Cfg} {l : Label} {s t : St} (hl : isCaller l = true) (hv : view c s = view c t)
    (hcd : s.ctxDone = t.ctxDone) (hr : s.recvd = t.recvd) (hres : s.result = t.result) :
    (step c s l).map callerFields = (step c t l).map callerFields := by
  cases l <;> cases hl
  case mCtx => simp only [step, hres, hcd, Option.map_if, callerFields, hr]
  case mRecv =>
    have hn : nextItem c s = nextItem c t := by
      simp only [nextItem, hr, show pSent c s = pSent c t from congrArg View.pSent hv,
        show sSent s = sSent t from congrArg View.sSent hv, show s.pFirst = t.pFirst from congrArg View.pFirst hv]
    simp only [step, hres, hn, hr]
    cases nextItem c t with
    | none => rfl
    | some fromPrimary => simp only [apply_ite (Option.map callerFields), Option.map_some, callerFields]

theorem step_caller {c : Cfg} {l : Label} {s s' : St} (hl : isCaller l = true) (h : step c s l = some s') :
    ∃ r res, s' = { s with recvd := r, result := res } := by
  cases l <;> cases hl <;> simp only [step, Option.ite_none_right_eq_some, Option.some.injEq] at h
  case mCtx => exact ⟨_, _, h.2.symm⟩
  case mRecv =>
    obtain ⟨-, h⟩ := h
    cases hn : nextItem c s with
    | none => simp [hn] at h
    | some fromPrimary =>
      simp only [hn] at h
      -- whoever sent the item (`ans`: whether it is an answer), it is an answer, the second nil, or the first nil
      generalize (if fromPrimary = true then c.pAns else c.sAns) = ans at h
      split at h
      · exact ⟨_, _, (Option.some.inj h).symm⟩
      · split at h <;> exact ⟨_, _, (Option.some.inj h).symm⟩

/-- `callerOk` seen through `callerFields` of the successor. -/
theorem callerOk_eq (c : Cfg) (s : St) (l : Label) :
    callerOk c s l = ((step c s l).map callerFields).all fun p => invC c (view c s) p.1 p.2 := by
  unfold callerOk
  cases step c s l <;> rfl

/-- What `Props.C20.ahead` rests on: a primary that has sent has sent, and `pFirst` changes only in the step in which it sends. -/
theorem moves_sent {v v' : View} (h : moves v v' = true) (hp : v.pSent = true) : v'.pSent = true ∧ v'.pFirst = v.pFirst := by
  simp only [moves, hp, Bool.not_true, Bool.false_or, Bool.and_false, Bool.false_eq_true, if_false, Bool.and_eq_true,
    beq_iff_eq] at h
  exact ⟨h.1.1, h.2⟩

theorem caller_step {c : Cfg} (hc : Callers c) {l : Label} (hl : isCaller l = true) {s s' : St}
    (hi : inv c s = true) (hs : step c s l = some s') :
    inv c s' = true ∧ goodStart c s s' = true ∧ moves (view c s) (view c s') = true := by
  rw [inv_eq, Bool.and_eq_true] at hi ⊢
  have h : callerOk c (rep (view c s) s.recvd s.result s.ctxDone) l = true :=
    hc _ _ _ _ _ hi.2 l (mem_labels l) hl _
  rw [callerOk_eq, ← step_view (s := s) hl (view_rep ..).symm rfl rfl rfl, view_rep, hs] at h
  -- nothing `quiet_ok` asks about reads the two fields in which `s'` differs from `s`
  obtain ⟨r, res, rfl⟩ := step_caller hl hs
  obtain ⟨hw, hg⟩ := quiet_ok hi.1 rfl rfl id id .inl
  exact ⟨⟨hw, h⟩, hg⟩

/-- The property's predicate follows from what the clauses say of each result. -/
theorem good_of {c : Cfg} {s : St} (hi : inv c s = true) : good c s = true := by
  cases hr : s.result
  case sec =>
    obtain ⟨hsa, hss, hn⟩ := inv_sec hi hr
    -- the primary's answer was not queued ahead of the secondary's, so the second clause gives the excuse
    have hq : s.sqExcuse = true := by
      rcases inv_queued hi hss with h | h | ⟨h1, h2, h3⟩
      · cases hsa.symm.trans h
      · exact h
      · simp [h1, h2, h3] at hn
    simp [good, hr, hq, hsa]
  case failed =>
    obtain ⟨h1, h2⟩ := inv_failed hi hr
    simp [good, hr, h1, h2]
  case prim => simp [good, hr, inv_prim hi hr]
  all_goals simp [good, hr]

/-- Along a step from a state with `inv`: `inv` again, the secondary started only with an excuse, and the view changed as
`moves` allows. -/
theorem step_ok (c : Cfg) (hsf : c.sendFirst = true) {s s' : St} {l : Label} (hi : inv c s = true) (hs : step c s l = some s') :
    inv c s' = true ∧ goodStart c s s' = true ∧ moves (view c s) (view c s') = true := by
  obtain ⟨a, b, d, e⟩ := c
  cases hsf
  obtain ⟨hst, hc⟩ := allOk a b d
  exact if hl : isCaller l = true then caller_step hc hl hi hs else worker_step rfl hst (Bool.eq_false_iff.mpr hl) hi hs

theorem inv_ok (c : Cfg) (hsf : c.sendFirst = true) (s : St) (hi : inv c s = true) :
    good c s = true ∧ ∀ l s', step c s l = some s' → inv c s' = true ∧ goodStart c s s' = true :=
  ⟨good_of hi, fun _ _ hs => have h := step_ok c hsf hi hs; ⟨h.1, h.2.1⟩⟩

theorem stateOk_of (c : Cfg) (hsf : c.sendFirst = true) (s : St) : stateOk c s = true := by
  cases hi : inv c s
  · simp [stateOk, hi]
  · obtain ⟨hg, hstep⟩ := inv_ok c hsf s hi
    simp only [stateOk, hi, hg, Bool.not_true, Bool.false_or, Bool.true_and, List.all_eq_true]
    intro l _
    cases hs : step c s l with
    | none => rfl
    | some s' => simp [hstep l s' hs]

theorem check0 : checkCfg ⟨true, true, true, true⟩ = true :=
  List.all_eq_true.2 fun s _ => stateOk_of _ rfl s

end Lemmas.C20Inv

import MosdnsVerif.Model.C20

/-! Inductiveness of `Model.C20.inv`: what the kernel evaluates (`allOk`, at the end). Nothing here depends on the regenerated
facts, so the evaluation is repeated only when the model changes. -/
namespace Lemmas.C20Inv
open Model.C20

/-! Inductiveness as one Boolean over the list of all raw states (complete: `mem_allSt`). `check0` (`Lemmas/C20Inv.lean`) states it
in this form for the first configuration, as a corollary of `inv_ok`; nothing else uses the list. -/

def bools : List Bool := [true, false]
def ress : List Res := [.none, .prim, .sec, .failed, .ctx]

def allSt : List St :=
  (List.finRange 4).flatMap fun a => (List.finRange 5).flatMap fun b => bools.flatMap fun pf =>
  (List.finRange 3).flatMap fun r => ress.flatMap fun res => bools.flatMap fun t => bools.flatMap fun cd =>
  bools.flatMap fun sc => bools.map fun sq => ⟨a, b, pf, r, res, t, cd, sc, sq⟩

theorem mem_bools (b : Bool) : b ∈ bools := by cases b <;> simp [bools]
theorem mem_ress (r : Res) : r ∈ ress := by cases r <;> simp [ress]
theorem mem_labels (l : Label) : l ∈ Label.all := by cases l <;> decide

theorem mem_allSt (s : St) : s ∈ allSt := by
  obtain ⟨a, b, pf, r, res, t, cd, sc, sq⟩ := s
  simp only [allSt, List.mem_flatMap, List.mem_map]
  exact ⟨a, List.mem_finRange a, b, List.mem_finRange b, pf, mem_bools pf, r, List.mem_finRange r, res, mem_ress res,
    t, mem_bools t, cd, mem_bools cd, sc, mem_bools sc, sq, mem_bools sq, rfl⟩

/-- a raw state is fine if it violates the invariant, or satisfies the
property's predicate and every enabled step keeps the invariant and starts
the secondary only with an excuse -/
def stateOk (c : Cfg) (s : St) : Bool :=
  !inv c s || (good c s && Label.all.all (fun l =>
    match step c s l with
    | none => true
    | some s' => inv c s' && goodStart c s s'))

def checkCfg (c : Cfg) : Bool := allSt.all fun s => stateOk c s

/-- `AllOk` quantifies over `Res`, for which core has no such instance as it has for `Bool` and `Fin n`. -/
instance decidableForallRes (p : Res → Prop) [DecidablePred p] : Decidable (∀ r, p r) :=
  decidable_of_iff (p .none ∧ p .prim ∧ p .sec ∧ p .failed ∧ p .ctx)
    ⟨fun ⟨h1, h2, h3, h4, h5⟩ r => by cases r <;> assumption, fun h => ⟨h _, h _, h _, h _, h _⟩⟩

/-! ### The sweep, decomposed

The two workers, the timer and the contexts on one side and the collecting caller on the other meet in three bits: whether
each worker has sent, and who sent first (`View`). The first three clauses of `inv` speak of the workers alone (`invW`), the
other eight of the caller and the view (`invC`); a worker's step does not read `recvd` or `result` and moves the view only
forward (`moves`); a caller's step reads the workers through the view and writes `recvd` and `result` only. So inductiveness
of `inv` is an argument about the workers' steps (`worker_ok`) and two small sweeps (`AllOk`) instead of one sweep over
every raw state, put together in `Lemmas/C20Inv.lean`. -/

/-- what the caller sees of the two workers -/
structure View where
  pSent : Bool
  sSent : Bool
  pFirst : Bool

def view (c : Cfg) (s : St) : View := ⟨pSent c s, sSent s, s.pFirst⟩

/-- the third clause of `inv`, on the view: the primary alone in the queue was first -/
def ordered (v : View) : Bool := !(v.pSent && !v.sSent) || v.pFirst

/-- the first three clauses of `inv`, as they stand in `Model.C20.inv` (`inv_eq` fails once the two texts part) -/
def invW (c : Cfg) (s : St) : Bool :=
  (c.standby || !secStarted s || primFailed c s || s.timer) &&
  (!(sSent s && c.sAns) || s.sqExcuse || (pSent c s && s.pFirst && c.pAns)) &&
  ordered (view c s)

/-- the other eight, with the view in the place of the workers' state -/
def invC (c : Cfg) (v : View) (recvd : Fin 3) (result : Res) : Bool :=
  (recvd.val == 0 || v.pSent || v.sSent) && (recvd.val != 2 || (v.pSent && v.sSent)) &&
  (recvd.val != 0 || result == .none || result == .ctx) &&
  (result != .prim || (c.pAns && v.pSent)) &&
  (result != .sec || (c.sAns && v.sSent && !(c.pAns && v.pSent && v.pFirst))) &&
  (result != .failed || (!c.pAns && !c.sAns && recvd.val == 2)) &&
  (!((result == .none || result == .ctx) && recvd.val == 1) ||
    (if v.pSent && (!v.sSent || v.pFirst) then !c.pAns else !c.sAns)) &&
  (!(result == .none && recvd.val == 2))

/-- How a worker's step may change the view: a worker that has sent has sent; the step in which the primary sends sets
`pFirst` to whether the secondary had not sent yet and leaves the secondary where it is; any other step keeps `pFirst`. -/
def moves (v v' : View) : Bool :=
  (!v.pSent || v'.pSent) && (!v.sSent || v'.sSent) &&
  (if v'.pSent && !v.pSent then v'.pFirst == !v.sSent && v'.sSent == v.sSent else v'.pFirst == v.pFirst)

def isCaller : Label → Bool
  | .mRecv | .mCtx => true
  | _ => false

def callerOk (c : Cfg) (s : St) (l : Label) : Bool :=
  match step c s l with
  | none => true
  | some s' => invC c (view c s) s'.recvd s'.result

/-- a state with the given view, for the caller's labels to run from -/
def rep (v : View) (recvd : Fin 3) (result : Res) (ctxDone : Bool) : St :=
  ⟨if v.pSent then 3 else 0, if v.sSent then 4 else 0, v.pFirst, recvd, result, false, ctxDone, false, false⟩

/-! The two sweeps, in the form the kernel decides: quantified field by field, since a list of the states would be dearer
to build than the quantifiers are to run. -/

def Stable (c : Cfg) : Prop :=
  ∀ p s f p' s' f', ordered ⟨p, s, f⟩ = true → moves ⟨p, s, f⟩ ⟨p', s', f'⟩ = true →
    ∀ r res, invC c ⟨p, s, f⟩ r res = true → invC c ⟨p', s', f'⟩ r res = true

/-- Both labels of the caller, from `rep` of every view and every state of the caller that satisfy its clauses:
`Lemmas.C20Inv.step_view` gives the other states. -/
def Callers (c : Cfg) : Prop :=
  ∀ p s f r res, invC c ⟨p, s, f⟩ r res = true →
    ∀ l ∈ Label.all, isCaller l = true → ∀ cd, callerOk c (rep ⟨p, s, f⟩ r res cd) l = true

instance (c : Cfg) : Decidable (Stable c) := by unfold Stable; infer_instance
instance (c : Cfg) : Decidable (Callers c) := by unfold Callers; infer_instance

def AllOk (c : Cfg) : Prop := Stable c ∧ Callers c

instance (c : Cfg) : Decidable (AllOk c) := by unfold AllOk; infer_instance

theorem allOk : ∀ a b d : Bool, AllOk ⟨a, b, d, true⟩ := by decide +kernel

end Lemmas.C20Inv

/-! List facts that more than one property file uses and core does not have. -/
namespace Lemmas.List

theorem exists_mem_map {α β : Type} {f : α → β} {l : List α} {P : β → Prop} :
    (∃ y ∈ l.map f, P y) ↔ ∃ x ∈ l, P (f x) :=
  ⟨fun ⟨_, h, hy⟩ => let ⟨x, hx, e⟩ := List.mem_map.mp h; ⟨x, hx, e ▸ hy⟩,
   fun ⟨x, hx, h⟩ => ⟨f x, List.mem_map_of_mem hx, h⟩⟩

/-- a list splits at the last occurrence of a member: the first occurrence (core's `List.eq_append_cons_of_mem`)
in the reversed list -/
theorem mem_split_last {α : Type} {a : α} {l : List α} (h : a ∈ l) : ∃ s t, l = s ++ a :: t ∧ a ∉ t := by
  obtain ⟨s, t, e, hs⟩ := List.eq_append_cons_of_mem (List.mem_reverse.mpr h)
  exact ⟨t.reverse, s.reverse, by simpa using congrArg List.reverse e, by simpa using hs⟩

end Lemmas.List

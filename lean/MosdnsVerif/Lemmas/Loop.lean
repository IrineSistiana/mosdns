import MosdnsVerif.Base.Go

/-! Reasoning principle for the `Go.loop` the translator emits for `for` loops:
an invariant `P` and a bound `m` (an integer, as Go's loop variables are) that
every iteration decreases and that is positive while the loop runs. With at
least `m s` fuel the loop runs to the point where its condition is false. -/
namespace Go

/-- The loop is given by an equation `hr` so that its condition and body, which the generated
definitions do not name, are read off the goal (`generalize hr : Go.loop _ _ _ _ = r`). -/
theorem loop_inv {σ : Type} (P : σ → Prop) (m : σ → Int) {cond : σ → Bool} {body : σ → σ}
    (hstep : ∀ s, P s → cond s = true → P (body s) ∧ m (body s) < m s ∧ 0 < m s)
    {fuel : Nat} {s r : σ} (hr : loop fuel cond body s = r) (hP : P s) (hm : m s ≤ fuel) :
    P r ∧ cond r = false := by
  subst hr
  fun_induction loop fuel cond body s with
  | case1 s =>
    -- no fuel: `m s ≤ 0`, so the condition cannot hold
    refine ⟨hP, ?_⟩
    cases hc : cond s with
    | false => rfl
    | true => have := (hstep s hP hc).2.2; omega
  | case2 s n hc ih =>
    -- `hc : cond s = true`: one iteration, then `ih` with one unit of fuel less
    have := hstep s hP hc
    exact ih this.1 (by omega)
  | case3 s n hc => exact ⟨hP, Bool.not_eq_true _ ▸ hc⟩   -- `hc : ¬ cond s = true`: the loop ends at `s`

end Go

/-! Executions of a labelled transition system given by a partial step function, and induction over them.

A model whose `run` has this shape proves once that it is `Lts.run` of its step and takes its inductions over
executions from here. Where the model's `run` is a `match` on the step, the bridge is
`by fun_induction run .. <;> simp only [Lts.run, *]`; it is not `rfl`, because the two definitions compile their
`match` to different matchers, which the unifier does not identify. A run that is a `foldl` of a total step needs no
bridge: core's `List.foldlRecOn` gives its invariants, `foldl_trace_inv` those that speak of the labels taken.

A step that also gives an output comes in two shapes. Where it is partial (`Option (σ × ω)`), the execution is `run` of the step
with its output dropped, and `run_inv_fst` takes the invariant's step lemma as it is proved, output included. Where it is total
(`σ × β`), `runOut` collects the outputs, and `runOut_inv` carries an invariant of the states together with a property of every
output (C10; the four such runs of C11 unfold by `rfl` and keep their four-line inductions, which are shorter than their bridges). -/
namespace Lts

variable {σ α : Type}

def run (step : σ → α → Option σ) : σ → List α → Option σ
  | s, [] => some s
  | s, l :: ls => match step s l with
    | none => none
    | some s' => run step s' ls

variable {step : σ → α → Option σ}

theorem run_cons_eq_some {s t : σ} {l : α} {ls : List α} :
    run step s (l :: ls) = some t ↔ ∃ s', step s l = some s' ∧ run step s' ls = some t := by
  cases h : step s l <;> simp [run, h]

theorem run_inv_mem {P : σ → Prop} {s t : σ} {ls : List α}
    (hstep : ∀ {s l s'}, l ∈ ls → P s → step s l = some s' → P s') (h0 : P s) (hr : run step s ls = some t) : P t := by
  induction ls generalizing s with
  | nil => cases hr; exact h0
  | cons l ls ih =>
    obtain ⟨s', hs, hr⟩ := run_cons_eq_some.mp hr
    exact ih (fun hl => hstep (List.mem_cons_of_mem _ hl)) (hstep List.mem_cons_self h0 hs) hr

theorem run_inv {P : σ → Prop} (hstep : ∀ {s l s'}, P s → step s l = some s' → P s')
    {s t : σ} {ls : List α} (h0 : P s) (hr : run step s ls = some t) : P t :=
  run_inv_mem (fun _ => hstep) h0 hr

/-- Clients state their bridge with the step followed by `.map (·.1)` literally, which is what `hr` here unifies with. -/
theorem run_inv_fst {ω : Type} {step : σ → α → Option (σ × ω)} {P : σ → Prop}
    (hstep : ∀ {s l s' o}, P s → step s l = some (s', o) → P s')
    {s t : σ} {ls : List α} (h0 : P s) (hr : run (fun s l => (step s l).map (·.1)) s ls = some t) : P t :=
  run_inv (fun hP h => by
    obtain ⟨⟨s', o⟩, hs, rfl⟩ := Option.map_eq_some_iff.mp h
    exact hstep hP hs) h0 hr

theorem run_trace_inv {P : List α → σ → Prop}
    (hstep : ∀ {done s l s'}, P done s → step s l = some s' → P (done ++ [l]) s')
    {s t : σ} {ls : List α} (done : List α) (h0 : P done s) (hr : run step s ls = some t) : P (done ++ ls) t := by
  induction ls generalizing s done with
  | nil => cases hr; simpa using h0
  | cons l ls ih =>
    obtain ⟨s', hs, hr⟩ := run_cons_eq_some.mp hr
    simpa using ih (done ++ [l]) (hstep h0 hs) hr

theorem foldl_trace_inv {P : List α → σ → Prop} {f : σ → α → σ}
    (hstep : ∀ done s l, P done s → P (done ++ [l]) (f s l))
    {s : σ} (done : List α) (h0 : P done s) (ls : List α) : P (done ++ ls) (ls.foldl f s) := by
  induction ls generalizing s done with
  | nil => simpa using h0
  | cons l ls ih => simpa using ih (done ++ [l]) (hstep done s l h0)

variable {β : Type}

def runOut (step : σ → α → σ × β) : σ → List α → σ × List β
  | s, [] => (s, [])
  | s, a :: as => ((runOut step (step s a).1 as).1, (step s a).2 :: (runOut step (step s a).1 as).2)

theorem runOut_inv {step : σ → α → σ × β} {P : σ → Prop} {Q : β → Prop}
    (hstep : ∀ s a, P s → P (step s a).1 ∧ Q (step s a).2) {s : σ} (as : List α) (h0 : P s) :
    P (runOut step s as).1 ∧ ∀ o ∈ (runOut step s as).2, Q o := by
  induction as generalizing s with
  | nil => exact ⟨h0, nofun⟩
  | cons a as ih =>
    have ⟨hp, hq⟩ := hstep s a h0
    exact ⟨(ih hp).1, List.forall_mem_cons.mpr ⟨hq, (ih hp).2⟩⟩

end Lts

import MosdnsVerif.Model.C16

/-! `io.ReadFull` on a chunked stream, and one frame read with it: independent of the chunking. -/

namespace Lemmas.Stream
open Go Model.C16

theorem readFullAux_spec (cs : Stream) (n : Nat) (acc : Bytes) :
    (n ≤ cs.flatten.length →
      ∃ cs', readFullAux cs n acc = .ok (acc ++ cs.flatten.take n, cs') ∧ cs'.flatten = cs.flatten.drop n) ∧
    (cs.flatten.length < n → ∃ e, readFullAux cs n acc = .error e) := by
  fun_induction readFullAux cs n acc with
  | case1 acc cs => exact ⟨fun _ => ⟨cs, by simp, rfl⟩, nofun⟩   -- nothing is asked for
  -- the stream is empty and bytes are still wanted: `eof` or `unexpectedEOF`, by the two values of `acc.isEmpty`
  | case2 | case3 => exact ⟨nofun, fun _ => ⟨_, rfl⟩⟩
  | case4 acc chunk tl n hc ih =>
    -- `hc : chunk.length ≤ n + 1`: the whole chunk is taken, the rest of the request goes to the tail
    simp only [List.flatten_cons, List.length_append]
    rw [List.take_append, List.drop_append, List.take_of_length_le hc, List.drop_of_length_le hc,
      ← List.append_assoc]
    exact ⟨fun h => ih.1 (by omega), fun h => ih.2 (by omega)⟩
  | case5 acc chunk tl n hc =>
    -- `hc : ¬ chunk.length ≤ n + 1`: the request ends inside this chunk
    have hc : n + 1 ≤ chunk.length := by omega
    simp only [List.flatten_cons, List.length_append]
    rw [List.take_append_of_le_length hc, List.drop_append_of_le_length hc]
    exact ⟨fun _ => ⟨_, rfl, rfl⟩, fun h => by omega⟩

theorem readFull_append {cs : Stream} {a rest : Bytes} (h : cs.flatten = a ++ rest) :
    ∃ cs', readFull cs a.length = .ok (a, cs') ∧ cs'.flatten = rest := by
  have := (readFullAux_spec cs a.length []).1 (by simp [h])
  rwa [h, List.take_left, List.drop_left] at this

theorem readFull_short {cs : Stream} {n : Nat} (h : cs.flatten.length < n) : ∃ e, readFull cs n = .error e :=
  (readFullAux_spec cs n []).2 h

theorem readFull_ok {cs cs' : Stream} {n : Nat} {r : Bytes} (h : readFull cs n = .ok (r, cs')) :
    r.length = n ∧ cs.flatten = r ++ cs'.flatten := by
  rcases Nat.lt_or_ge cs.flatten.length n with hl | hl
  · obtain ⟨e, he⟩ := readFull_short hl
    cases h.symm.trans he
  · obtain ⟨c1, h1, h2⟩ := (readFullAux_spec cs n []).1 hl
    cases h.symm.trans h1
    exact ⟨by rw [List.nil_append, List.length_take, Nat.min_eq_left hl],
      by rw [h2, List.nil_append, List.take_append_drop]⟩

theorem announced_hdr {n : Nat} (h : n ≤ 65535) : announced (hdr n) = n := by
  simp [announced, hdr, Nat.mod_eq_of_lt (show n / 256 < 256 by omega), Nat.div_add_mod']

theorem readRaw_first_two {cs : Stream} {hd rest : Bytes} (h : cs.flatten = hd ++ rest) (hl : hd.length = 2) :
    ∃ c1, c1.flatten = rest ∧
      readRaw cs = if announced hd < 12 then .error .tooSmall else readFull c1 (announced hd) := by
  obtain ⟨c1, h1, h2⟩ := readFull_append h
  rw [hl] at h1
  exact ⟨c1, h2, by simp only [readRaw, h1]⟩

theorem readRaw_short {cs : Stream} (h : cs.flatten.length < 2) : ∃ e, readRaw cs = .error e := by
  obtain ⟨e, he⟩ := readFull_short h
  exact ⟨e, by rw [readRaw, he]⟩

/-- A framed stream is written `hdr n ++ m ++ rest`, as the theorems of C01, C16 and C17 have it. -/
theorem readFull_hdr {cs : Stream} {n : Nat} {m rest : Bytes} (h : cs.flatten = hdr n ++ m ++ rest) :
    ∃ c1, readFull cs 2 = .ok (hdr n, c1) ∧ c1.flatten = m ++ rest :=
  readFull_append (List.append_assoc .. ▸ h)

theorem readRaw_frame {m rest : Bytes} {cs : Stream} (h12 : 12 ≤ m.length) (hmax : m.length ≤ 65535)
    (hcs : cs.flatten = hdr m.length ++ m ++ rest) :
    ∃ cs', readRaw cs = .ok (m, cs') ∧ cs'.flatten = rest := by
  obtain ⟨c1, h1, h2⟩ := readFull_hdr hcs
  simp only [readRaw, h1, announced_hdr hmax, if_neg (Nat.not_lt.mpr h12)]
  exact readFull_append h2

theorem readRaw_ok {cs cs' : Stream} {b : Bytes} (h : readRaw cs = .ok (b, cs')) :
    ∃ hd, hd.length = 2 ∧ b.length = announced hd ∧ 12 ≤ b.length ∧ cs.flatten = hd ++ b ++ cs'.flatten := by
  unfold readRaw at h
  cases h1 : readFull cs 2 with
  | error e => simp only [h1] at h; cases h
  | ok p =>
    obtain ⟨hd, c1⟩ := p
    simp only [h1] at h
    by_cases hs : announced hd < 12
    · rw [if_pos hs] at h; cases h
    · rw [if_neg hs] at h
      obtain ⟨l1, k1⟩ := readFull_ok h1
      obtain ⟨l2, k2⟩ := readFull_ok h
      exact ⟨hd, l1, l2, by omega, by rw [k1, k2, List.append_assoc]⟩

end Lemmas.Stream

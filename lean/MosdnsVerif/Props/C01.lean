import MosdnsVerif.Model.C01
import MosdnsVerif.Model.C01Doq
import MosdnsVerif.Refine.C16
import MosdnsVerif.Lemmas.Lts
import MosdnsVerif.Lemmas.Stream
import MosdnsVerif.Base.Facts
import MosdnsVerif.Gen.Facts

/-!
# C01 — every upstream exchange returns the reply to its own query
-/
namespace Props.C01
open Model.C01

theorem upd_same (f : Nat → Option Nat) (k : Nat) (v : Option Nat) : upd f k v k = v := by simp [upd]
theorem upd_other (f : Nat → Option Nat) (k x : Nat) (v : Option Nat) (h : x ≠ k) : upd f k v x = f x := by simp [upd, h]

theorem Pipe.run_eq (tries : Nat) (s : Pipe) (ls : List Label) : s.run tries ls = Lts.run (Pipe.step tries) s ls := by
  fun_induction Pipe.run tries s ls <;> simp only [Lts.run, *]

theorem Reuse.run_eq (s : Reuse) (ls : List RLabel) : s.run ls = Lts.run Reuse.step s ls := by
  fun_induction Reuse.run s ls <;> simp only [Lts.run, *]

theorem Doh.run_eq (perCall : Bool) (s : Doh) (ls : List DLabel) : s.run perCall ls = Lts.run (Doh.step perCall) s ls := by
  fun_induction Doh.run perCall s ls <;> simp only [Lts.run, *]

theorem BufPool.run_eq (direct : Bool) (s : BufPool) (ls : List PLabel) :
    s.run direct ls = Lts.run (BufPool.step direct) s ls := by
  fun_induction BufPool.run direct s ls <;> simp only [Lts.run, *]

/-- the id handed out by `addQueueC` is not in the waiter table -/
theorem alloc_free {table : Nat → Option Nat} {k next qid next' : Nat} (h : alloc table k next = (some qid, next')) :
    table qid = none := by
  fun_induction alloc table k next with
  | case1 => cases h                       -- no try left: no id
  | case2 k next _ _ hs ih => exact ih h    -- `next` is in use: the search goes on
  | case3 k next _ _ hn => rw [← Option.some.inj (Prod.mk.inj h).1]; simpa using hn    -- `next` is free and is handed out

theorem pipe_init_inv : ({} : Pipe).Inv := by
  constructor <;> simp

theorem pipe_inv_erase {s : Pipe} (hi : s.Inv) (w : Nat) {lg : List (Nat × Nat)} (hl : ∀ p ∈ lg, p.1 = p.2) :
    ({ s with table := upd s.table w none, log := lg } : Pipe).Inv := by
  refine ⟨fun w' c h => ?_, hi.fresh, hl⟩
  by_cases e : w' = w
  · simp [upd_same, e] at h
  · exact hi.latest w' c (by simpa [upd_other, e] using h)

theorem pipe_inv_step {tries : Nat} {s s' : Pipe} {l : Label} (hi : s.Inv) (hs : s.step tries l = some s') : s'.Inv := by
  cases l with
  | add =>
    rcases ha : alloc s.table tries s.next with ⟨_ | qid, next'⟩ <;> simp only [Pipe.step, ha] at hs <;> cases hs
    · exact ⟨hi.latest, fun c hc => hi.fresh c (Nat.le_of_succ_le hc), hi.log⟩
    · -- the new caller `s.nextCaller` waits under `qid`
      refine ⟨fun w c hw => ?_, fun c hc => ?_, hi.log⟩
      · by_cases hwq : w = qid
        · obtain rfl : s.nextCaller = c := by simpa [upd_same, hwq] using hw
          simp [upd_same, hwq]
        · -- an older waiter is not the new caller: its query has a wire id, the new caller's has none yet
          have h := hi.latest w c (by simpa [upd_other, hwq] using hw)
          have hc : c ≠ s.nextCaller := fun e => by simp [e, hi.fresh s.nextCaller (Nat.le_refl _)] at h
          simpa [upd_other, hwq, hc] using h
      · simpa [upd_other, Nat.ne_of_gt hc] using hi.fresh c (Nat.le_of_succ_le hc)
  | reply w origin =>
    simp only [Pipe.step, Option.ite_none_right_eq_some] at hs
    obtain ⟨hen, hs⟩ := hs
    cases ht : s.table w with
    | none => simp only [ht, Option.some.injEq] at hs; exact hs ▸ hi
    | some c =>
      simp only [ht, Option.some.injEq] at hs
      subst hs
      -- the waiter found under `w` is the latest user of `w`, and that is whom the reply was produced for
      have hen : s.widOf origin = some w ∧ c = origin := by
        simpa [Pipe.replyEnabled, ht, (hi.latest w c ht).1] using hen
      exact pipe_inv_erase hi w (List.forall_mem_cons.mpr ⟨hen.2, hi.log⟩)
  | leave c =>
    cases hw : s.widOf c with
    | none => simp only [Pipe.step, hw, Option.some.injEq] at hs; exact hs ▸ hi
    | some w =>
      simp only [Pipe.step, hw] at hs
      split at hs <;> cases hs
      · exact pipe_inv_erase hi w hi.log
      · exact hi

theorem pipe_inv_run {tries : Nat} {ls : List Label} {s s' : Pipe} (hi : s.Inv) (hr : s.run tries ls = some s') : s'.Inv :=
  Lts.run_inv pipe_inv_step hi (Pipe.run_eq .. ▸ hr)

/-- **Every reply a caller receives on a pipelined / UDP connection was
produced by the server for that caller's own query** — for every number of
callers, every order, delay and duplication of replies, every cancellation, and
every interleaving of callers and reader. Replies that find no waiter are
released and appear in no delivery. -/
theorem own_reply (tries : Nat) (ls : List Label) (s : Pipe) (hr : ({} : Pipe).run tries ls = some s) :
    ∀ p ∈ s.log, p.1 = p.2 :=
  (pipe_inv_run pipe_init_inv hr).log

/-- waiting callers never share a wire id -/
theorem waiters_distinct (tries : Nat) (ls : List Label) (s : Pipe) (hr : ({} : Pipe).run tries ls = some s)
    (w1 w2 c : Nat) (h1 : s.table w1 = some c) (h2 : s.table w2 = some c) : w1 = w2 := by
  have hi := pipe_inv_run pipe_init_inv hr
  simpa [(hi.latest w1 c h1).2] using (hi.latest w2 c h2).2

-- a schedule with a delivery, a duplicate reply, a caller that leaves, a reply that comes too late for it
example : ((({} : Pipe).run 100 [.add, .add, .reply 1 1, .reply 1 1, .leave 0, .reply 0 0, .add]).map (fun s => (s.log, s.table 2))) =
    some ([(1, 1)], some 2) := by decide

/-- **The caller's 16-bit id is restored**, whatever id was used on the wire. -/
theorem id_restored (q reply : Msg) (wid : Nat) : (restore q { reply with id := (rewrite q wid).id }).id = q.id ∧
    (restore q reply).body = reply.body := by
  simp [restore]

/-! ## why the dup check matters: allocation that does not skip ids in use -/

def allocNoSkip (next : Nat) : Option Nat × Nat := (some next, (next + 1) % idSpace)

/-- with ids handed out blindly, two waiting callers can share wire id 0 after
the counter wraps, and the reply to the first is delivered to the second -/
def badStep (s : Pipe) : Pipe :=
  let c := s.nextCaller
  let qid := s.next
  { s with next := (s.next + 1) % idSpace, nextCaller := c + 1, table := upd s.table qid (some c),
           widOf := upd s.widOf c (some qid), lastUser := upd s.lastUser qid (some c) }

example :
    let s0 : Pipe := badStep {}                          -- caller 0 waits with wire id 0
    let s1 : Pipe := badStep { s0 with next := 0 }       -- ... the counter has wrapped: caller 1 also gets 0
    (s1.table 0, s1.widOf 0) = (some 1, some 0) := by decide

/-! ## non-pipelined reused connection -/

theorem reuse_init_inv : ({} : Reuse).Inv := by
  constructor <;> simp

theorem reuse_inv_step {s s' : Reuse} {l : RLabel} (hi : s.Inv) (hs : s.step l = some s') : s'.Inv := by
  cases l with
  | take =>
    simp only [Reuse.step, Option.ite_none_right_eq_some, Bool.and_eq_true, Option.some.injEq] at hs
    obtain ⟨⟨hidle, -⟩, rfl⟩ := hs
    have hf := hi.idleFree hidle
    exact { owedSlot := hi.owedSlot, idleFree := nofun, holderFree := fun _ _ => ⟨hf.1, hf.2.1⟩, log := hi.log }
  | send =>
    cases hh : s.holder with
    | none => simp [Reuse.step, hh] at hs
    | some c =>
      simp only [Reuse.step, hh, Option.ite_none_left_eq_some, Option.some.injEq] at hs
      obtain ⟨-, rfl⟩ := hs
      have hf := hi.holderFree c hh
      exact { owedSlot := fun o ho => by simpa [hf.2] using ho
              idleFree := fun hidle => by simp [(hi.idleFree hidle).2.2] at hh
              holderFree := nofun, log := hi.log }
  | reply =>
    cases ho : s.owed with
    | none => simp [Reuse.step, ho] at hs
    | some o =>
      have hc := hi.owedSlot o ho
      simp only [Reuse.step, ho, hc, Option.ite_none_left_eq_some, Option.some.injEq] at hs
      obtain ⟨-, rfl⟩ := hs
      have hh : s.holder = none :=
        Option.eq_none_iff_forall_ne_some.mpr fun c' hh => by cases hc.symm.trans (hi.holderFree c' hh).1
      exact { owedSlot := nofun, idleFree := fun _ => ⟨rfl, rfl, hh⟩, holderFree := fun _ _ => ⟨rfl, rfl⟩
              log := List.forall_mem_cons.mpr ⟨rfl, hi.log⟩ }
  | surplus =>
    simp only [Reuse.step, Option.ite_none_left_eq_some] at hs
    obtain ⟨-, hs⟩ := hs
    split at hs <;> cases hs
    exact { hi with idleFree := nofun }   -- the step only sets `closed` and clears `idle`
  | close => cases hs; exact { hi with idleFree := nofun }
  | leave => cases hs; exact hi

/-- **On a non-pipelined reused connection every reply goes to the caller whose
query the server answered**, a connection is handed to the next caller only
when no reply is owed on it, and a reply that finds the connection idle closes it. -/
theorem reuse_own_reply (ls : List RLabel) (s : Reuse) (hr : ({} : Reuse).run ls = some s) :
    (∀ p ∈ s.log, p.1 = p.2) ∧ (s.idle = true → s.owed = none) := by
  have hi : s.Inv := Lts.run_inv reuse_inv_step reuse_init_inv (Reuse.run_eq .. ▸ hr)
  exact ⟨hi.log, fun h => (hi.idleFree h).2.1⟩

-- a caller that gives up and still gets its reply read off the connection, then the next caller
example : ((({} : Reuse).run [.send, .leave, .reply, .take, .send, .reply]).map (·.log)) = some [(1, 1), (0, 0)] := by decide

/-- the seeded defect "a cancelled call hands its connection back": leaving
clears the slot and marks the connection idle while a reply is owed; the next
caller then receives the reply owed to the previous one -/
def badLeave (s : Reuse) : Reuse := { s with slot := none, idle := true }
example : (((((({} : Reuse).step .send).map badLeave).bind (·.step .take)).bind (·.step .send)).bind (·.step .reply)).map (·.log)
    = some [(1, 0)] := by decide

/-! ## reply buffers are released to the pool only by their last owner (upstream level: plain UDP with TCP fallback) -/

theorem mem_foldl_of_mem {σ α β : Type} {f : σ → α → σ} {g : σ → List β} {e : α} {b : β}
    (put : ∀ s, b ∈ g (f s e)) (keep : ∀ s e', b ∈ g s → b ∈ g (f s e')) (p : List α) (s : σ) (h : e ∈ p) :
    b ∈ g (p.foldl f s) := by
  -- `e` occurs somewhere in `p`: there it puts `b` in, and every later event keeps it
  obtain ⟨l1, l2, rfl⟩ := List.append_of_mem h
  rw [List.foldl_append, List.foldl_cons]
  exact List.foldlRecOn (motive := (b ∈ g ·)) l2 f (put _) fun s hs e' _ => keep s e' hs

theorem released_in_pool (p : List BufEv) (s : Own) (b : Nat) (h : BufEv.release b ∈ p) : b ∈ (p.foldl Own.ev s).pool :=
  mem_foldl_of_mem (g := (·.pool)) (by simp [Own.ev]) (fun s e h => by cases e <;> simp [Own.ev, h]) p s h

theorem deferred_in_deferred (p : List BufEv) (s : Own) (b : Nat) (h : BufEv.deferRelease b ∈ p) :
    b ∈ (p.foldl Own.ev s).deferred :=
  mem_foldl_of_mem (g := (·.deferred)) (by simp [Own.ev]) (fun s e h => by cases e <;> simp [Own.ev, h]) p s h

/-- **A buffer handed to the caller has not been given back to the pool by the function that returns it** —
neither directly nor by a deferred release: on every path that the model calls safe and that ends in
`return v`, no `pool.ReleaseBuf(v)` and no `defer pool.ReleaseBuf(v)` precedes the return. For all paths, of
any length, over any number of buffers. -/
theorem returned_never_released (pre : List BufEv) (v : Nat) (h : (runPath (pre ++ [.ret v])).safe = true) :
    BufEv.release v ∉ pre ∧ BufEv.deferRelease v ∉ pre := by
  simp only [runPath, List.foldl_append, List.foldl_cons, List.foldl_nil, Own.safe, Own.exit, Own.ev,
    Bool.and_eq_true, Bool.not_eq_true', List.contains_eq_mem, List.mem_append, decide_eq_false_iff_not, not_or] at h
  obtain ⟨⟨_, hd, hp⟩, _⟩ := h
  exact ⟨fun hr => hp (released_in_pool pre _ v hr), fun hr => hd (deferred_in_deferred pre _ v hr)⟩

/-- **Every control-flow path of `udpWithFallback.ExchangeContext`, as regenerated from the source, leaves the
pool safe**: the reply it hands to its caller is not in the free list, every other reply buffer it received
went back at most once, and none is read after its release. -/
theorem fallback_buffers_single_owner : pathsSafe Gen.Facts.c01FallbackBufPaths = true := by decide

/-- the seeded defect "the truncated UDP reply is returned when the TCP retry fails, and released by a `defer`":
got r, read r (TC test), defer release r, got tr, tr lost (TCP error), return r — r is in the free list while
its caller holds it -/
example : pathsSafe (some [[(0, 0), (2, 0), (4, 0), (0, 1), (1, 1), (5, 0)]]) = false := by decide
/-- ... whereas returning it without the release, or releasing it and returning the TCP reply, is safe (C17 decides which one is wanted) -/
example : pathsSafe (some [[(0, 0), (2, 0), (0, 1), (1, 1), (5, 0)], [(0, 0), (2, 0), (3, 0), (0, 1), (5, 1)], [(0, 0), (2, 0), (3, 0), (6, 0)]]) = true := by decide
/-- a double release and a read after release are unsafe -/
example : pathsSafe (some [[(0, 0), (3, 0), (4, 0), (6, 0)]]) = false ∧ pathsSafe (some [[(0, 0), (3, 0), (2, 0), (6, 0)]]) = false := by decide

/-! ## DoH: the request a call hands to the transport carries that call's own query -/

theorem doh_init_inv : ({} : Doh).Inv := by
  constructor <;> simp

theorem doh_inv_step {s s' : Doh} {l : DLabel} (hi : s.Inv) (hs : s.step true l = some s') : s'.Inv := by
  cases l with
  | build c =>
    cases hs
    refine ⟨fun c' o ho => ?_, hi.log⟩
    by_cases hc : c' = c
    · simpa [upd_same, hc] using ho.symm
    · exact hi.own c' o (by simpa [upd_other, hc] using ho)
  | serve c =>
    simp only [Doh.step, if_true, Option.ite_none_right_eq_some] at hs
    obtain ⟨-, hs⟩ := hs
    cases ho : s.own c with
    | none => simp [ho] at hs
    | some o =>
      simp only [ho, Option.some.injEq] at hs
      exact hs ▸ ⟨hi.own, List.forall_mem_cons.mpr ⟨(hi.own c o ho).symm, hi.log⟩⟩

/-- **DoH: every request is answered for the query of the call it belongs to**, for any number of concurrent
calls and whenever the transport gets round to serialising each request (any interleaving of `build` and
`serve` steps) - provided each call writes its query string into a URL of its own. -/
theorem doh_own_reply (ls : List DLabel) (s : Doh) (hr : ({} : Doh).run true ls = some s) : ∀ p ∈ s.log, p.1 = p.2 :=
  (Lts.run_inv doh_inv_step doh_init_inv (Doh.run_eq .. ▸ hr) : s.Inv).log

/-- ... which is what the code does (regenerated fact): the statement above holds for the DoH upstream as regenerated. -/
theorem doh_own_reply_gen (ls : List DLabel) (s : Doh)
    (hr : ({} : Doh).run (Gen.Facts.c01DohRequestPerCall == some true) ls = some s) : ∀ p ∈ s.log, p.1 = p.2 :=
  doh_own_reply ls s hr   -- the fact evaluates to `true`

/-- the seeded defect "the per-call copy of the URL is dropped": two calls build their requests, then the
transport serialises the first one: it carries the second call's query, and call 0 is handed the answer to it -/
example : ((({} : Doh).run false [.build 0, .build 1, .serve 0]).map (·.log)) = some [(0, 1)] := by decide

/-! ## DoQ: the reply read from the query's stream is the server's reply, however it is cut into pieces -/

/-- **DoQ: whatever pieces the reply arrives in, the caller gets exactly the bytes the server sent on its
query's stream, with its own id in front** (the reader is the regenerated `ReadRawMsgFromTCP`; every chunking
of the stream, including one-byte reads and a split header). -/
theorem doq_own_reply (reply rest : Bytes) (cs : Go.Stream) (hi lo : UInt8) (h13 : 13 ≤ reply.length)
    (hmax : reply.length ≤ 65535) (hcs : cs.flatten = Model.C16.hdr reply.length ++ reply ++ rest) :
    doqReturn hi lo cs = .ok (hi :: lo :: reply.drop 2) := by
  -- the reader needs 12 bytes, the dns header, and `readRaw_frame` asks for no more; 13 is what `frames_decode` and
  -- `doq_reply_reads_back` of Props/C16 are stated with
  obtain ⟨cs', h, _⟩ := Lemmas.Stream.readRaw_frame (by omega) hmax hcs
  simp only [doqReturn, Refine.C16.readRawMsgFromTCP_eq, h]

/-- a reader that takes the body from a single `Read` (the seeded defect) returns, for a reply that arrives in
two pieces, the first piece completed with what the pooled buffer held before: the tail of an earlier reply -/
example :
    (readOnce [0, 0, 2, 2, 2, 2, 2, 2, 2, 2, 2, 2, 2, 2]
      [[0, 14], [0, 0, 1, 1, 1, 1, 1, 1, 1], [1, 1, 1, 1, 1]]).toOption = some [0, 0, 1, 1, 1, 1, 1, 1, 1, 2, 2, 2, 2, 2] ∧
    (doqReturn 0 0 [[0, 14], [0, 0, 1, 1, 1, 1, 1, 1, 1], [1, 1, 1, 1, 1]]).toOption = some [0, 0, 1, 1, 1, 1, 1, 1, 1, 1, 1, 1, 1, 1] := by decide

/-! ## the byte pool: a buffer has one holder at a time -/

theorem pool_step_clash {s s' : BufPool} {l : PLabel} (hs : s.step true l = some s') : s'.clash = s.clash := by
  cases l with
  | get g b | release g b => simp only [BufPool.step] at hs; split at hs <;> cases hs; rfl
  | look g b | take g => simp [BufPool.step] at hs

/-- a buffer that `GetBuf` returns was held by nobody at that moment, and it is its taker's until the taker
releases it: no later `get` of another goroutine is enabled on it -/
theorem pool_get_excludes (s s' : BufPool) (g b : Nat) (hs : s.step true (.get g b) = some s') :
    s.holder b = none ∧ s'.holder b = some g ∧ ∀ g', s'.step true (.get g' b) = none := by
  simp only [BufPool.step, Bool.true_and, Option.ite_none_right_eq_some, Option.some.injEq] at hs
  obtain ⟨hn, rfl⟩ := hs
  exact ⟨by simpa using hn, upd_same .., fun g' => by simp [BufPool.step, upd_same]⟩

/-- **With `GetBuf` being the free list's own `Get`, no buffer is ever given to a second goroutine while the
first still holds it** - for any number of goroutines and buffers and every interleaving of their gets and
releases. -/
theorem pool_single_owner (ls : List PLabel) : ∀ (s s' : BufPool), s.run true ls = some s' → s'.clash = s.clash :=
  fun s _ hr => Lts.run_inv (P := fun t => t.clash = s.clash) (fun h hs => (pool_step_clash hs).trans h)
    rfl (BufPool.run_eq .. ▸ hr)

/-- ... which is what pkg/pool/allocator.go has (regenerated fact) -/
theorem pool_single_owner_gen (ls : List PLabel) (s : BufPool)
    (hr : ({} : BufPool).run (Gen.Facts.c01PoolGetIsFreeListGet == some true) ls = some s) : s.clash = [] :=
  pool_single_owner ls _ s hr   -- the fact evaluates to `true`

/-- the seeded defect "a spare buffer in a slot that GetBuf reads and clears in two instructions": goroutine 0
releases buffer 7, goroutines 1 and 2 both find it free, both take it: 2 is given a buffer that 1 holds -/
example : ((({} : BufPool).run false [.look 0 7, .take 0, .release 0 7, .look 1 7, .look 2 7, .take 1, .take 2]).map (·.clash)) =
    some [(7, 1, 2)] := by decide
/-- non-vacuity of the one-step pool: buffers go round among goroutines -/
example : ((({} : BufPool).run true [.get 0 7, .release 0 7, .get 1 7, .get 2 8, .release 1 7, .get 2 7]).map (fun s => (s.holder 7, s.holder 8, s.clash))) =
    some (some 2, some 2, []) := by decide
example : (({} : BufPool).run true [.get 0 7, .get 1 7]).isNone = true := by decide

/-- The regenerated facts the models above were written from (how `addQueueC` searches an id, the reader's dispatch by
wire id, who removes which entry, the id rewriting of every transport, the DoH request per call, the one-waiter discipline
of the reused connection, the pool's `Get`). `decide` fails, and with it the build, once the source says otherwise. -/
theorem facts_guard :
    Gen.Facts.c01AllocSkipsIdsInUse = some true ∧ Gen.Facts.c01AllocTries = some 100 ∧ Gen.Facts.c01NextQidIs16Bit = some true ∧
    Gen.Facts.c01ReaderDispatchesByWireId = some true ∧ Gen.Facts.c01PopRemovesEntry = some true ∧
    Gen.Facts.c01DeleteOnlyOwnEntry = some true ∧ Gen.Facts.c01WireIdWrittenIntoCopy = some true ∧
    Gen.Facts.c01CallerIdRestored = some true ∧ Gen.Facts.c01DohIdZeroedAndRestored = some true ∧
    Gen.Facts.c01DohRequestPerCall = some true ∧
    Gen.Facts.c01DoqIdZeroedAndRestored = some true ∧ Gen.Facts.c01ReuseLeaveKeepsSlot = some true ∧
    Gen.Facts.c01ReuseOneWaiter = some true ∧ Gen.Facts.c01ReuseReaderDispatch = some true ∧
    Gen.Facts.c01ReuseSetIdleCallSites = some 2 ∧ Gen.Facts.c01ReuseTakeRemovesFromIdle = some true ∧
    Gen.Facts.c01FallbackBufPaths.isSome = true ∧ Gen.Facts.c01PoolGetIsFreeListGet = some true := by decide

end Props.C01

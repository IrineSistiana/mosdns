import MosdnsVerif.Model.C02
import MosdnsVerif.Gen.Facts
import MosdnsVerif.Lemmas.Lts

/-!
# C02 — a reply that arrives in time is never lost
-/
namespace Props.C02
open Model.C02

def phases : List Phase := [.sending, .waiting, .gotReply, .gotCloseErr, .gotCtxErr]

theorem mem_phases (p : Phase) : p ∈ phases := by cases p <;> decide
theorem mem_labels (l : Label) : l ∈ Label.all := by cases l <;> decide

/-- the configuration the sweep runs on; by `step_cap` every positive capacity steps like capacity 1 -/
def goodCfg : Cfg := ⟨1, true, true⟩

/-- every raw state (320) × every label, evaluated by the kernel -/
theorem sweep : ∀ p ∈ phases, ∀ a b c d e f, inv ⟨p, a, b, c, d, e, f⟩ = true →
    good ⟨p, a, b, c, d, e, f⟩ = true ∧ ∀ l ∈ Label.all, ∀ s' ∈ step goodCfg ⟨p, a, b, c, d, e, f⟩ l, inv s' = true := by
  decide +kernel

theorem inv_ok (s : St) (hi : inv s = true) : good s = true ∧ ∀ l s', step goodCfg s l = some s' → inv s' = true :=
  have h := sweep s.phase (mem_phases _) s.buffered s.closed s.ctxDone s.innerDone s.arrived s.dropped hi
  ⟨h.1, fun l => h.2 l (mem_labels l)⟩

theorem step_cap (c : Cfg) (h : 1 ≤ c.cap) (s : St) (l : Label) : step c s l = step ⟨1, c.drainFirst, c.ownCtx⟩ s l := by
  cases l with
  | readerDeliver =>
    have h0 : (c.cap == 0) = false := beq_false_of_ne (Nat.ne_of_gt h)
    have h1 : decide (0 < c.cap) = true := decide_eq_true h
    simp [step, h0, h1]
  | _ => rfl

theorem inv_step (c : Cfg) (hcap : 1 ≤ c.cap) (hd : c.drainFirst = true) (ho : c.ownCtx = true) (s s' : St) (l : Label)
    (hi : inv s = true) (hs : step c s l = some s') : inv s' = true ∧ good s = true := by
  rw [step_cap c hcap, hd, ho] at hs
  exact ⟨(inv_ok s hi).2 l s' hs, (inv_ok s hi).1⟩

theorem run_eq (c : Cfg) (s : St) (ls : List Label) : run c s ls = Lts.run (step c) s ls := by
  fun_induction run c s ls <;> simp only [Lts.run, *]

theorem inv_run (c : Cfg) (hcap : 1 ≤ c.cap) (hd : c.drainFirst = true) (ho : c.ownCtx = true) {ls : List Label}
    {s s' : St} (hi : inv s = true) (hr : run c s ls = some s') : inv s' = true :=
  Lts.run_inv (fun hi hs => (inv_step c hcap hd ho _ _ _ hi hs).1) hi (run_eq .. ▸ hr)

/-- **C02.** With a reply channel of capacity at least one, a caller that
looks at it before honouring the close notification, and the caller's own
context handed on unchanged down to the final select, for every schedule of
reader, caller, peer and clock (the reply may arrive before `Write` returns,
between send and wait, or while waiting; the peer may close right after it):
* a reply read from the connection is never released undelivered;
* the caller returns the close error only if no reply had arrived, the
  context error only if its context had ended;
* whenever the caller is parked and its reply has arrived, taking it is enabled. -/
theorem reply_not_lost (c : Cfg) (hcap : 1 ≤ c.cap) (hd : c.drainFirst = true) (ho : c.ownCtx = true) (ls : List Label) (s : St)
    (hr : run c {} ls = some s) :
    s.dropped = false ∧ (s.phase = .gotCloseErr → s.arrived = false) ∧ (s.phase = .gotCtxErr → s.ctxDone = true) ∧
    (s.phase = .waiting → s.arrived = true → step c s .pickReply = some { s with phase := .gotReply, buffered := false }) := by
  have hg := (inv_ok s (inv_run c hcap hd ho (by decide) hr)).1
  simp only [good, Bool.and_eq_true, Bool.or_eq_true, Bool.not_eq_eq_eq_not, Bool.not_true, and_assoc] at hg
  obtain ⟨hdrop, hclose, hctx, hpark⟩ := hg
  refine ⟨hdrop, fun hp => ?_, fun hp => ?_, fun hp ha => ?_⟩
  · simpa [hp] using hclose
  · simpa [hp] using hctx
  · have : s.buffered = true := by simpa [hp, ha] using hpark
    simp [step, hp, this]

/-- The defects repaired by a8404aa and 665679f, as witness schedules of the
model: with an unbuffered channel a reply that arrives before the caller is
parked is dropped; without the drain the close error can win over a delivered reply. -/
theorem unbuffered_drops : ∃ s, run ⟨0, true, true⟩ {} [.readerDeliver] = some s ∧ s.dropped = true := ⟨_, rfl, rfl⟩
theorem no_drain_loses : ∃ s, run ⟨1, false, true⟩ {} [.readerDeliver, .readerClose, .writeReturns, .pickClose] = some s ∧
    s.phase = .gotCloseErr ∧ s.arrived = true := ⟨_, rfl, rfl, rfl⟩

/-- A layer that waits on a context of its own making (e.g. "the caller's context, but at most one dial timeout")
can give up with the context error while the caller's deadline is still ahead: the reply that arrives afterwards
finds nobody waiting. Hence the hypothesis `ownCtx` of `reply_not_lost` and the guard `c02CallerCtxReachesWait`. -/
theorem derived_ctx_loses : ∃ s, run ⟨1, true, false⟩ {} [.writeReturns, .innerExpire, .pickCtx, .readerDeliver] = some s ∧
    s.phase = .gotCtxErr ∧ s.ctxDone = false ∧ s.arrived = true := ⟨_, rfl, rfl, rfl, rfl⟩

/-- The caller parked, the reply arrived and the close notification right behind it: a wait that honours the close
notification without looking at the reply channel first loses the reply (DoQ: the connection's context competing
with the reader's result). Hence the guards `c02QuicWaitOnlyCtxAndReply` / `c02*DrainsOnClose`. -/
theorem parked_no_drain_loses : ∃ s, run ⟨1, false, true⟩ {} [.writeReturns, .readerDeliver, .readerClose, .pickClose] = some s ∧
    s.phase = .gotCloseErr ∧ s.arrived = true := ⟨_, rfl, rfl, rfl⟩

/-- A wait without any close case (DoQ) is the schedules in which `pickClose` is never taken: `reply_not_lost` covers
them, and the parked caller whose reply arrived leaves with it whatever happened to the connection meanwhile. -/
theorem no_close_case_takes_reply : (run ⟨1, true, true⟩ {} [.writeReturns, .readerDeliver, .readerClose, .pickReply]).map (·.phase) = some .gotReply := by decide

/-! ### DoH: the reply is the response body, in whatever pieces it arrives -/
section Doh
open Model.C02.Doh

theorem readToEOF_eq (s : Go.Stream) (lim : Nat) (acc : Bytes) : readToEOF s lim acc = acc ++ s.flatten.take lim := by
  fun_induction readToEOF s lim acc with
  | case1 => simp         -- the body has ended
  | case2 => simp [*]     -- the limit is used up
  | case3 chunk rest lim acc _ hle ih =>    -- the piece fits under the limit
    rw [ih, List.flatten_cons, List.take_append, List.take_of_length_le hle, List.append_assoc]
  | case4 chunk rest lim acc _ hle =>       -- the piece is cut at the limit
    rw [List.flatten_cons, List.take_append_of_le_length (by omega)]

/-- **C02 (DoH).** A 200 response whose body - however it is cut into pieces, one `Read` per piece or finer - adds
up to a DNS message `m` (12..65535 bytes) makes the exchange return `m` with the caller's id: no chunking of a
complete body turns it into an error or a different message. -/
theorem doh_reply_not_lost (body : Go.Stream) (m qid : Bytes) (hb : body.flatten = m)
    (h12 : 12 ≤ m.length) (hmax : m.length ≤ 65535) :
    exchange true qid body = .reply (qid ++ m.drop 2) := by
  have hr : readToEOF body maxMsgSize [] = m := by
    rw [readToEOF_eq, hb, List.nil_append]; exact List.take_of_length_le hmax
  simp [exchange, hr, headerLen, Nat.not_lt.mpr h12]

theorem doh_chunking_irrelevant (b1 b2 : Go.Stream) (qid : Bytes) (h : b1.flatten = b2.flatten) :
    exchange true qid b1 = exchange true qid b2 := by
  simp only [exchange, if_true, readToEOF_eq, h]

/-- A reader that takes what ONE `Read` returns loses a complete reply as soon as it arrives in two pieces
(here: the 12-byte header, then the rest). Hence the guard `c02DohBodyReadToEOF`. -/
theorem doh_single_read_loses : ∃ (hdr rest : Bytes), hdr.length = 12 ∧ rest ≠ [] ∧
    exchange false [0, 7] [hdr, rest] ≠ exchange true [0, 7] [hdr, rest] :=
  ⟨List.replicate 12 0, [1], rfl, by decide, by decide⟩

end Doh

/-! ### The layer between transport and socket: data that comes together with an error -/
section Wrap
open Model.C02.Wrap

theorem wrap_keeps (r : Rd) : wrap true r = r := by simp [wrap]

/-- Through a layer whose `Read` is the wrapped connection's own, `io.ReadFull` sees what the connection gave. -/
theorem readFull_through_layer (rs : List Rd) (need : Nat) (acc : Bytes) :
    readFull (rs.map (wrap true)) need acc = readFull rs need acc := by
  have : wrap true = id := funext wrap_keeps
  simp [this]

/-- **C02 (stream reads).** If the pieces the `Read` calls hand out add up to at least the `need` bytes of the frame
and no call before the last one reports an error, `io.ReadFull` returns the frame - also when the last piece comes
together with EOF / a read error (the peer closed right behind the reply). -/
theorem readFull_complete : ∀ (rs : List Rd) (need : Nat) (acc : Bytes),
    need ≤ (rs.map (·.data)).flatten.length → (∀ r ∈ rs.dropLast, r.err = false) →
    readFull rs need acc = some (acc ++ (rs.map (·.data)).flatten.take need) := by
  intro rs need acc h he
  fun_induction readFull rs need acc with
  | case1 | case3 => simp                                   -- nothing is missing
  | case2 need _ hn => exact absurd (Nat.le_zero.mp h) hn   -- no call left
  | case4 r rs need acc _ hle =>                            -- this call gives what is missing
    rw [List.map_cons, List.flatten_cons, List.take_append_of_le_length hle]
  | case5 r rs need acc _ hgt herr =>
    -- an error with too few bytes: by `he` this is the last call, and by `h` the last call gives what is missing
    cases rs with
    | nil => exact absurd (by simpa using h) hgt
    | cons r' rs => cases herr.symm.trans (he r List.mem_cons_self)
  | case6 r rs need acc _ hgt _ ih =>                       -- no error: the next call goes on with the rest
    have hsub : ∀ x ∈ rs.dropLast, x ∈ (r :: rs).dropLast := by
      cases rs with
      | nil => nofun
      | cons => exact fun x => List.mem_cons_of_mem r
    rw [List.map_cons, List.flatten_cons, List.length_append] at h
    rw [ih (by omega) fun x hx => he x (hsub x hx), List.map_cons, List.flatten_cons, List.take_append,
      List.take_of_length_le (Nat.le_of_not_le hgt), List.append_assoc]

/-- The whole frame handed out by one `Read` together with EOF is delivered through a layer that keeps `Read` ... -/
theorem eof_with_data_kept (f : Bytes) : readFull ([⟨f, true⟩].map (wrap true)) f.length [] = some f := by
  rw [readFull_through_layer, readFull_complete _ _ _ (by simp) (by simp)]
  simp

/-- ... and lost through one that answers an error with `(0, err)`. Hence the guard `c02ObserverLayerKeepsRead`. -/
theorem eof_with_data_dropped (f : Bytes) (h : f ≠ []) : readFull ([⟨f, true⟩].map (wrap false)) f.length [] = none := by
  simp [readFull, wrap, h]

end Wrap

/-! ### The waiter table over the life of a connection: the key registered is the key looked up -/
section Ids
open Model.C02.Ids

/-- **C02 (long-lived connections).** With the waiter registered under the id that goes on the wire, the reply to the
`ctr`-th query of a connection finds its waiter for EVERY `ctr` (also after the 16-bit id space has been used up, any
number of times), whatever the width of the counter. -/
theorem waiter_found_always (bits ctr : Nat) : finds true bits ctr = true := by
  simp [finds, regKey, lookupKey]

/-- A 16-bit counter used as the key directly is the same thing. -/
theorem waiter_found_16 (k : Bool) (ctr : Nat) : finds k 16 ctr = true := by
  cases k <;> simp [finds, regKey, lookupKey, wire, held]

/-- A wider counter used as the key: the first 65536 queries are fine, the 65537th reply finds nobody.
Hence the guards `c02TdcWaiterKeyIsWireId` / `c02TdcQidCounterBits`. -/
theorem wide_key_loses : finds false 32 65535 = true ∧ finds false 32 65536 = false := by decide

end Ids

/-! ### The datagram reader: junk in front of a reply costs nothing -/
namespace Udp
open Model.C02.Udp

/-- A reader that hands every `Read` the full buffer returns the first datagram that is a dns message, whole, whatever
shorter datagrams (any number, any lengths below a header, empty ones) came before it and whatever comes behind it. -/
theorem reply_after_junk (cap : Nat) (junk : List Nat) (d : Nat) (rest : List Nat)
    (hj : ∀ j ∈ junk, j < headerLen) (hd : headerLen ≤ d) (hc : d ≤ cap) :
    readMsg true cap (junk ++ d :: rest) = some d := by
  induction junk with
  | nil => simp [readMsg, Nat.min_eq_right hc, hd]
  | cons j js ih =>
    have hmin : ¬ headerLen ≤ min cap j := by have := hj j List.mem_cons_self; omega
    simp [readMsg, hmin, ih fun x hx => hj x (List.mem_cons_of_mem _ hx)]

/-- the size of the buffer does not matter beyond "at least the message" -/
theorem reply_after_junk_any_buffer (cap cap' : Nat) (junk : List Nat) (d : Nat) (rest : List Nat)
    (hj : ∀ j ∈ junk, j < headerLen) (hd : headerLen ≤ d) (hc : d ≤ cap) (hc' : d ≤ cap') :
    readMsg true cap (junk ++ d :: rest) = readMsg true cap' (junk ++ d :: rest) := by
  rw [reply_after_junk cap junk d rest hj hd hc, reply_after_junk cap' junk d rest hj hd hc']

/-- once the buffer is shorter than a header, a reader that keeps it that way returns nothing any more -/
theorem cut_buffer_returns_nothing (buf : Nat) (ds : List Nat) (hb : buf < headerLen) : readMsg false buf ds = none := by
  fun_induction readMsg false buf ds with
  | case1 => rfl                            -- no datagram left
  | case2 buf d ds n hn => omega            -- returned: `hn : headerLen ≤ min buf d`, which `hb` rules out
  | case3 buf d ds n hn ih =>               -- skipped: the next buffer is `min buf d`, no longer than this one
    exact ih (by simp only [Bool.false_eq_true, if_false]; omega)

/-- Witness that "every Read gets the full buffer" is needed: with a reader that re-slices the buffer to a skipped
datagram, ONE datagram shorter than a header loses every reply behind it, for every buffer size. -/
theorem resliced_buffer_loses (cap j : Nat) (ds : List Nat) (hj : j < headerLen) : readMsg false cap (j :: ds) = none := by
  have hmin : ¬ headerLen ≤ min cap j := by omega
  simp [readMsg, hmin, cut_buffer_returns_nothing (min cap j) ds (by omega)]

example : readMsg true 4095 [5, 0, 1, 40, 30] = some 40 := by decide
example : readMsg false 4095 [5, 40] = none := by decide

/-- the reader as built: the regenerated buffer size, every Read gets all of it -/
theorem reply_after_junk_src (cap : Nat) (_ : Gen.Facts.c02UdpRxBufSize = some cap) (_ : Gen.Facts.c02UdpEveryReadGetsFullBuffer = some true)
    (junk : List Nat) (d : Nat) (rest : List Nat) (hj : ∀ j ∈ junk, j < headerLen) (hd : headerLen ≤ d) (hc : d ≤ cap) :
    readMsg true cap (junk ++ d :: rest) = some d := reply_after_junk cap junk d rest hj hd hc

end Udp

/-- The regenerated facts the models above were written from (the capacity of the reply channels, the drain before the
close error, the context the final select waits on, how the DoH body is read, what the observer layer's `Read` hands on,
the waiter key, the datagram reader's buffer). `decide` fails, and with it the build, once the source says otherwise. -/
theorem facts_guard :
    (∃ n, Gen.Facts.c02TdcRespChanCap = some n ∧ 1 ≤ n) ∧ (∃ n, Gen.Facts.c02ReuseRespChanCap = some n ∧ 1 ≤ n) ∧
    Gen.Facts.c02TdcDrainsOnClose = some true ∧ Gen.Facts.c02ReuseDrainsOnClose = some true ∧
    Gen.Facts.c02ReaderHandsOffNonBlocking = some true ∧ Gen.Facts.c02ReuseChanInstalledBeforeWrite = some true ∧
    Gen.Facts.c02NoEarlyCloseCheckAfterWrite = some true ∧
    Gen.Facts.c02CallerCtxReachesWait = some true ∧ Gen.Facts.c02DohBodyReadToEOF = some true ∧
    Gen.Facts.c02DohWaitsOnCallerCtx = some true ∧
    (∃ n, Gen.Facts.c02QuicRespChanCap = some n ∧ 1 ≤ n) ∧ Gen.Facts.c02QuicWaitOnlyCtxAndReply = some true ∧
    Gen.Facts.c02ObserverLayerKeepsRead = some true ∧
    Gen.Facts.c02TdcWaiterKeyIsWireId = some true ∧ Gen.Facts.c02TdcQidCounterBits = some 16 ∧
    (∃ n, Gen.Facts.c02UdpRxBufSize = some n ∧ 512 ≤ n) ∧ Gen.Facts.c02UdpEveryReadGetsFullBuffer = some true := by
  refine ⟨⟨1, by decide⟩, ⟨1, by decide⟩, ?_, ?_, ?_, ?_, ?_, ?_, ?_, ?_, ⟨1, by decide⟩, ?_, ?_, ?_, ?_, ⟨4095, by decide⟩, ?_⟩ <;> decide

/-! ### Non-vacuity: reply during the send, then EOF, then the caller parks -/
example : (run ⟨1, true, true⟩ {} [.readerDeliver, .readerClose, .writeReturns, .pickClose]).map (·.phase) = some .gotReply := by decide

end Props.C02

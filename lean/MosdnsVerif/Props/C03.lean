import MosdnsVerif.Model.Handler
import MosdnsVerif.Model.C03Udp
import MosdnsVerif.Model.C06
import MosdnsVerif.Gen.Facts
import MosdnsVerif.Lemmas.Lts

/-!
# C03 — every valid query gets one reply with its own ID and question

The idea: `Inv` is what every plugin keeps (`Respects`) - ID and question of the query stay, a response echoes them
up to the names that the redirects in force allow. It is kept by composition, by `redirect` and by whole sequence
programs (`run_respects`), and `reply_echo` reads the claim off it at the end of `Handle`.
-/
namespace Props.C03
open Model.Handler

/-- The invariant every plugin keeps. `e` is the query the plugin was handed,
`names` the owner names in force: the current one first, then those of the
enclosing `redirect` scopes (so at top level just the client's name).
A plugin leaves ID and question of the query as it found them; a response, if
set, has the query's ID, QR set, and the query's question up to a name that is
one of `names`. -/
structure Inv (names : List Bytes) (e : Msg) (c : Ctx) : Prop where
  qid : c.q.id = e.id
  qq : c.q.question = e.question
  one : ∃ x, e.question = [x] ∧ names.head? = some x.name
  echo : ∀ r, c.resp = some r → r.id = e.id ∧ r.qr = true ∧
    ∃ x n, e.question = [x] ∧ n ∈ names ∧ r.question = [{ x with name := n }]

/-- a plugin (or a whole rest-of-chain) as a context transformer with an error flag -/
def Respects (f : Ctx → Ctx × Bool) : Prop := ∀ names e c, Inv names e c → Inv names e (f c).1

/-- the clause `Inv.echo` under a name of its own (the two are the same formula, and used as such) -/
def EchoResp (names : List Bytes) (e : Msg) (resp : Option Msg) : Prop :=
  ∀ r, resp = some r → r.id = e.id ∧ r.qr = true ∧
    ∃ x n, e.question = [x] ∧ n ∈ names ∧ r.question = [{ x with name := n }]

theorem EchoResp.none {names : List Bytes} {e : Msg} : EchoResp names e none := fun _ h => nomatch h

theorem EchoResp.congr {names : List Bytes} {e e' : Msg} {resp : Option Msg} (h : EchoResp names e resp)
    (hid : e'.id = e.id) (hq : e'.question = e.question) : EchoResp names e' resp := by
  unfold EchoResp
  rwa [hid, hq]

theorem EchoResp.some {names : List Bytes} {e r : Msg} {x : Question} (hx : e.question = [x])
    (hn : names.head? = some x.name) (h1 : r.id = e.id) (h2 : r.question = [x]) (h3 : r.qr = true) :
    EchoResp names e (some r) := by
  rintro _ ⟨⟩
  exact ⟨h1, h3, x, x.name, hx, List.mem_of_mem_head? hn, h2⟩

theorem EchoResp.map {names : List Bytes} {e : Msg} {resp : Option Msg} {f : Msg → Msg}
    (hf : ∀ m, (f m).id = m.id ∧ (f m).question = m.question ∧ (f m).qr = m.qr) (h : EchoResp names e resp) :
    EchoResp names e (resp.map f) := by
  intro r hr
  obtain ⟨m, hm, rfl⟩ := Option.map_eq_some_iff.mp hr
  rw [(hf m).1, (hf m).2.1, (hf m).2.2]
  exact h m hm

/-- entering the scope of a redirect to `target` -/
theorem EchoResp.push {names : List Bytes} {e e' : Msg} {x : Question} {resp : Option Msg} {target : Bytes}
    (h : EchoResp names e resp) (hx : e.question = [x]) (hid : e'.id = e.id)
    (hq : e'.question = [{ x with name := target }]) : EchoResp (target :: names) e' resp := by
  intro r hr
  obtain ⟨a, b, y, n, hy, hmem, hrq⟩ := h r hr
  obtain rfl : x = y := by simpa [hx] using hy
  exact ⟨by rw [hid, a], b, _, n, hq, List.mem_cons_of_mem _ hmem, hrq⟩

/-- leaving it: redirect renames the target back in the response's question and puts a CNAME in front -/
theorem EchoResp.pop {names : List Bytes} {e e' : Msg} {x : Question} {resp : Option Msg} {target : Bytes}
    (h : EchoResp (target :: names) e' resp) (hx : e.question = [x]) (hname : x.name ∈ names) (hid : e'.id = e.id)
    (hq : e'.question = [{ x with name := target }]) :
    EchoResp names e (resp.map fun m => { renameQ m target x.name with answer := .rr x.name 5 1 0 :: m.answer }) := by
  intro r hr
  obtain ⟨m, hm, rfl⟩ := Option.map_eq_some_iff.mp hr
  obtain ⟨a, b, y, n, hy, hmem, hrq⟩ := h m hm
  obtain rfl : { x with name := target } = y := by simpa [hq] using hy
  refine ⟨by rw [← hid]; exact a, b, x, if n = target then x.name else n, hx, ?_, ?_⟩
  · split
    · exact hname
    · next hne => exact (List.mem_cons.mp hmem).resolve_left hne
  · by_cases hnt : n = target <;> simp [renameQ, hrq, hnt]

theorem Inv.question {names : List Bytes} {e : Msg} {c : Ctx} (h : Inv names e c) :
    ∃ x, c.q.question = [x] ∧ e.question = [x] ∧ names.head? = some x.name :=
  let ⟨x, hx, hn⟩ := h.one
  ⟨x, h.qq.trans hx, hx, hn⟩

theorem Inv.setResponse {names : List Bytes} {e : Msg} {c : Ctx} (h : Inv names e c) {m : Msg}
    (h1 : m.id = c.q.id) (h2 : m.question = c.q.question ∨ m.question = c.q.question.take 1) (h3 : m.qr = true) :
    Inv names e (c.setResponse (some m)) := by
  obtain ⟨x, hq, hx, hn⟩ := h.question
  refine ⟨h.qid, h.qq, h.one, EchoResp.some hx hn (h1.trans h.qid) ?_ h3⟩
  rcases h2 with h2 | h2 <;> simp [h2, hq]

/-- **Locally generated answers** (`reject`, hosts, black_hole, arbitrary,
`GenEmptyReply`): built with `SetReply(query)`, whatever rcode and records. -/
theorem respects_local (rcode : Nat) (answer ns : List RR) :
    Respects (fun c => (localAnswer rcode answer ns c, false)) :=
  fun _ _ _ h => h.setResponse rfl (.inr rfl) rfl

/-- **An upstream that echoes ID and question** (forward; the transports restore the ID, C01). -/
theorem respects_upstream (up : Msg → Msg)
    (hup : ∀ q, (up q).id = q.id ∧ (up q).question = q.question ∧ (up q).qr = true) :
    Respects (fun c => (upstreamAnswer (up c.q) c, false)) :=
  fun _ _ c h => h.setResponse (hup c.q).1 (.inl (hup c.q).2.1) (hup c.q).2.2

/-- **Cache hit**: the stored message was stored for the same question (C04,
C11) with QR set; the hit gets the ID of the query (`cachedResp.Id = q.Id`). -/
theorem respects_cacheHit (look : Msg → Option Msg)
    (hsound : ∀ q s, look q = some s → s.question = q.question ∧ s.qr = true) :
    Respects (fun c => (match look c.q with | some s => cacheHit s c | none => c, false)) := by
  intro names e c h
  show Inv names e (match look c.q with | some s => cacheHit s c | none => c)
  cases hl : look c.q with
  | none => exact h
  | some s => exact h.setResponse rfl (.inl (hsound _ _ hl).1) (hsound _ _ hl).2

/-- **Plugins that only rewrite records** of an existing response (ttl, ecs_handler, ...). -/
theorem respects_mapResp (f : Msg → Msg)
    (hf : ∀ m, (f m).id = m.id ∧ (f m).question = m.question ∧ (f m).qr = m.qr) :
    Respects (fun c => ({ c with resp := c.resp.map f }, false)) :=
  fun _ _ _ h => ⟨h.qid, h.qq, h.one, EchoResp.map hf h.echo⟩

theorem respects_comp (f g : Ctx → Ctx × Bool) (hf : Respects f) (hg : Respects g) :
    Respects (fun c => if (f c).2 then f c else g (f c).1) := by
  intro names e c h
  simp only
  split
  · exact hf names e c h
  · exact hg names e _ (hf names e c h)

/-- **redirect.** Inside its scope the rest of the chain sees the *target*
name (and may answer for it); afterwards the query's name is restored on every
path (also when the rest of the chain failed - the `defer`), names in the reply
equal to the target are restored and a CNAME is prepended. Nested redirects
and responses set before the redirect ran are covered by `names`. -/
theorem respects_redirect (target : Bytes) (next : Ctx → Ctx × Bool) (hn : Respects next) :
    Respects (redirect target next) := by
  intro names e c h
  obtain ⟨x, hq, hx, hhead⟩ := h.question
  have hout := hn (target :: names) { e with question := [{ x with name := target }] }
    { c with q := { c.q with question := [{ x with name := target }] } }
    ⟨h.qid, rfl, ⟨_, rfl, rfl⟩, EchoResp.push h.echo hx rfl rfl⟩
  have hecho := EchoResp.pop hout.echo hx (List.mem_of_mem_head? hhead) rfl rfl
  unfold redirect
  rw [hq]
  simp only
  generalize next _ = res at hout hecho
  -- with the context taken apart both shapes of its response make the `match` of the model compute
  obtain ⟨⟨q2, co, resp2, ro, uo⟩, err⟩ := res
  have hq2 : q2.question.map (fun y => { y with name := x.name }) = e.question := by
    rw [show q2.question = _ from hout.qq, hx]; rfl
  cases resp2 <;> exact ⟨hout.qid, hq2, h.one, hecho⟩

open Model.C06 in
/-- Instantiating the sequence semantics of C06 with contexts: the error value
carries the context at the moment of the error. Matchers only read. -/
structure GoodSem (sem : Sem Ctx Ctx) : Prop where
  matchRO : ∀ m c, (∃ b, sem.matchFn m c = .ok (b, c)) ∨ sem.matchFn m c = .error c
  execOk : ∀ a names e c, Inv names e c →
    match sem.execFn a c with | .ok c' => Inv names e c' | .error c' => Inv names e c'
  wrapOk : ∀ w (k : Ctx → Except Ctx Ctx),
    (∀ names e c, Inv names e c → match k c with | .ok c' => Inv names e c' | .error c' => Inv names e c') →
    ∀ names e c, Inv names e c →
      match sem.wrapFn w k c with | .ok c' => Inv names e c' | .error c' => Inv names e c'
  rejectOk : ∀ rc names e c, Inv names e c → Inv names e (sem.setResp rc c)

/-- the `match` that `GoodSem.execOk` / `wrapOk` spell out -/
def InvR (names : List Bytes) (e : Msg) : Except Ctx Ctx → Prop
  | .ok c => Inv names e c
  | .error c => Inv names e c

open Model.C06 in
theorem evalMatchers_ro {sem : Sem Ctx Ctx} (hs : GoodSem sem) (ms : List (Bool × Nat)) (c : Ctx) :
    match evalMatchers sem ms c with | .ok (_, c') => c' = c | .error c' => c' = c := by
  induction ms with
  | nil => rfl
  | cons p ms ih =>
    simp only [evalMatchers]
    rcases hs.matchRO p.2 c with ⟨b, hb⟩ | hb
    · rw [hb]
      dsimp only
      cases b != p.1
      · rfl
      · exact ih
    · rw [hb]

open Model.C06 in
theorem evalMatchers_ok {sem : Sem Ctx Ctx} (hs : GoodSem sem) {ms : List (Bool × Nat)} {c s' : Ctx} {b : Bool}
    (h : evalMatchers sem ms c = .ok (b, s')) : s' = c := by
  have := evalMatchers_ro hs ms c
  rwa [h] at this

open Model.C06 in
theorem evalMatchers_error {sem : Sem Ctx Ctx} (hs : GoodSem sem) {ms : List (Bool × Nat)} {c e : Ctx}
    (h : evalMatchers sem ms c = .error e) : e = c := by
  have := evalMatchers_ro hs ms c
  rwa [h] at this

open Model.C06 in
/-- **Every composition of respecting plugins respects the invariant** - for
sequence programs of any shape (jump/goto/return/accept/reject/wrappers), by
functional induction over the continuation semantics of C06. -/
theorem run_respects (sem : Sem Ctx Ctx) (hs : GoodSem sem) (rules : List Rule) (k : Ctx → Except Ctx Ctx) (c : Ctx) :
    (∀ names e c', Inv names e c' → InvR names e (k c')) →
    ∀ names e, Inv names e c → InvR names e (run sem rules k c) := by
  fun_induction run sem rules k c
  all_goals intro hk names e h
  case case1 => exact hk names e _ h                         -- no rule left: the continuation
  -- every other arm has evaluated the matchers of the first rule, and they hand the context on as they got it
  case case2 hm => exact evalMatchers_error hs hm ▸ h        -- a matcher failed
  all_goals obtain rfl := evalMatchers_ok hs ‹evalMatchers _ _ _ = .ok _›
  case case3 ih _ => exact ih hk names e h                   -- the rule does not match: the rest
  case case4 a _ hx _ => exact hx ▸ hs.execOk a names e _ h  -- plain action, failed
  case case5 a _ hx ih _ =>                                  -- plain action, then the rest
    have h2 := hs.execOk a names e _ h
    rw [hx] at h2; exact ih hk names e h2
  case case6 ih _ =>                                         -- a wrapper around the rest
    exact hs.wrapOk _ _ (fun names e c hc => ih c hk names e hc) names e _ h
  case case7 => exact h                                      -- accept
  case case8 => exact hs.rejectOk _ names e _ h              -- reject
  case case9 => exact hk names e _ h                         -- return: the continuation
  case case10 ih2 ih1 _ =>                                   -- jump: the target, continued by the rest
    exact ih1 (fun names e c hc => ih2 c hk names e hc) names e h
  case case11 ih1 _ => exact ih1 (fun names e c hc => hc) names e h   -- goto: the target, continued by nothing

open Model.C06 in
/-- the entry sequence as the handler sees it -/
def entryOf (sem : Sem Ctx Ctx) (chain : List Rule) (c : Ctx) : Ctx × Bool :=
  match run sem chain .ok c with
  | .ok c' => (c', false)
  | .error c' => (c', true)

open Model.C06 in
theorem entry_respects (sem : Sem Ctx Ctx) (hs : GoodSem sem) (chain : List Rule) : Respects (entryOf sem chain) := by
  intro names e c h
  have := run_respects sem hs chain .ok c (fun _ _ _ hc => hc) names e h
  unfold entryOf
  cases hr : run sem chain .ok c <;> rw [hr] at this <;> exact this

/-- **Malformed queries get no DNS reply** (QR set, question count other than
one, answer or authority records, more than one additional record). -/
theorem handle_drops_malformed (entry : Ctx → Ctx × Bool) (truncate : Msg → Nat → Msg) (pack : Msg → Option Bytes)
    (udp : Bool) (q : Msg) (h : validQuery q = false) :
    handle entry truncate pack udp q = none ∧ reply entry truncate udp q = none := by
  simp [handle, reply, h]

theorem validQuery_one {q : Msg} (hv : validQuery q = true) : ∃ x, q.question = [x] := by
  have hlen : q.question.length = 1 := by simp [validQuery] at hv; omega
  exact List.length_eq_one_iff.mp hlen

/-- what the library's `Truncate` must leave alone -/
def TruncKeeps (truncate : Msg → Nat → Msg) : Prop :=
  ∀ m n, (truncate m n).id = m.id ∧ (truncate m n).question = m.question ∧ (truncate m n).qr = m.qr ∧
    (truncate m n).ra = m.ra ∧ (truncate m n).rcode = m.rcode

theorem finish_fields (truncate : Msg → Nat → Msg) (ht : TruncKeeps truncate) (udp : Bool) (c : Ctx) (m : Msg) :
    (finish truncate udp c m).id = m.id ∧ (finish truncate udp c m).question = m.question ∧
    (finish truncate udp c m).qr = m.qr ∧ (finish truncate udp c m).ra = true ∧
    (finish truncate udp c m).rcode = m.rcode := by
  unfold finish
  cases c.respOpt <;> cases udp <;> simp [ht _ _]

/-- The end of `Handle`, whichever message `src` SERVFAIL and REFUSED are built from. -/
theorem finish_echo {truncate : Msg → Nat → Msg} (ht : TruncKeeps truncate) (udp : Bool) (c : Ctx) {q src : Msg}
    {x : Question} (hx : q.question = [x]) (hid : src.id = q.id) (hq : src.question = q.question)
    (he : EchoResp [x.name] q c.resp) (failed : Bool) :
    ∃ r, finish truncate udp c (if failed then { setReply src with rcode := 2 } else
        match c.resp with | some r => r | none => { setReply src with rcode := 5 }) = r ∧
      r.id = q.id ∧ r.question = q.question ∧ r.qr = true ∧ r.ra = true ∧ (failed = true → r.rcode = 2) ∧
      (failed = false → c.resp = none → r.rcode = 5) ∧ (∀ a, failed = false → c.resp = some a → r.rcode = a.rcode) := by
  refine ⟨_, rfl, ?_⟩
  cases failed with
  | true => simp [finish_fields truncate ht, setReply, hid, hq, hx]
  | false =>
    cases hresp : c.resp with
    | none => simp [finish_fields truncate ht, setReply, hid, hq, hx]
    | some a =>
      obtain ⟨e1, e2, y, n, hy, hn, hrq⟩ := he a hresp
      obtain rfl : x = y := by simpa [hx] using hy
      obtain rfl : n = x.name := by simpa using hn
      simp [finish_fields truncate ht, e1, e2, hrq, hx]

/-- **C03 (main).** Every well-formed query gets exactly one reply message
carrying the query's ID and question unchanged with QR and RA set - whatever
the (respecting) plugin chain did, on the error path, the no-answer path and
the answer path, over UDP and TCP - with rcode SERVFAIL if the chain failed,
REFUSED if it produced nothing, else the plugins' rcode. -/
theorem reply_echo (entry : Ctx → Ctx × Bool) (hent : Respects entry)
    (truncate : Msg → Nat → Msg) (ht : TruncKeeps truncate) (udp : Bool) (q : Msg)
    (hv : validQuery q = true) :
    ∃ r, reply entry truncate udp q = some r ∧ r.id = q.id ∧ r.question = q.question ∧ r.qr = true ∧ r.ra = true ∧
      ((entry (newContext q)).2 = true → r.rcode = 2) ∧
      ((entry (newContext q)).2 = false → (entry (newContext q)).1.resp = none → r.rcode = 5) ∧
      (∀ a, (entry (newContext q)).2 = false → (entry (newContext q)).1.resp = some a → r.rcode = a.rcode) := by
  obtain ⟨x, hx⟩ := validQuery_one hv
  have hinv : Inv [x.name] (newContext q).q (entry (newContext q)).1 :=
    hent _ _ _ ⟨rfl, rfl, ⟨x, hx, rfl⟩, EchoResp.none⟩
  -- `(newContext q).q` has the id and the question of `q` by unfolding `newContext`, which is why `hx` and `hinv.qid` fit;
  -- `finish_echo` is stated over the body of `base`, to which `reply` unfolds
  obtain ⟨r, hr, h⟩ := finish_echo ht udp (entry (newContext q)).1 hx hinv.qid hinv.qq hinv.echo (entry (newContext q)).2
  exact ⟨r, by simp only [reply, hv]; exact congrArg some hr, h⟩

/-- **UDP size.** Over UDP the reply is what `Truncate` returns for the limit
max(512, advertised size) - computed from the client's OPT - applied *after*
the response OPT was attached; with the library's contract (`Truncate` fits
the message into the limit, setting TC when it dropped records) the reply
never exceeds that limit. -/
theorem udp_size (entry : Ctx → Ctx × Bool) (truncate : Msg → Nat → Msg) (size : Msg → Nat)
    (hfit : ∀ m n, 512 ≤ n → size (truncate m n) ≤ n) (q : Msg) (r : Msg)
    (hr : reply entry truncate true q = some r) :
    size r ≤ validUDPSize (entry (newContext q)).1.clientOpt ∧
    512 ≤ validUDPSize (entry (newContext q)).1.clientOpt := by
  have h512 : ∀ o, 512 ≤ validUDPSize o
    | none => Nat.le_refl _
    | some _ => Nat.le_max_right ..
  refine ⟨?_, h512 _⟩
  unfold reply at hr
  split at hr
  · cases hr
  · injection hr with hr
    rw [← hr]
    unfold finish
    simp only [if_true]
    exact hfit _ _ (h512 _)

/-! ### Arrival over UDP: the read loop of `ServeUDP` hands every goroutine its own query

`Model.C03Udp`: one receive buffer, a goroutine per datagram, any interleaving of loop and goroutines.
With the query unpacked inside the loop (fact `c03UdpUnpackInReadLoop`), at every point of every
schedule the replies written so far together with the queries held by pending goroutines are exactly
the well-formed datagrams received so far, each with its sender's address: a reply goes to the address
whose datagram it was computed from (by `reply_echo` it carries that datagram's ID and question),
no datagram is handled twice, and once no goroutine is pending every one was handled once. With the
unpacking left to the goroutine this is false (witness schedule below). -/
section udp
open Model.C03Udp

theorem perm_cons_eraseIdx {α : Type} {l : List α} {i : Nat} {t : α} (h : l[i]? = some t) :
    l.Perm (t :: l.eraseIdx i) := by
  obtain ⟨hi, rfl⟩ := List.getElem?_eq_some_iff.mp h
  -- `l` is `take i l ++ l[i] :: drop (i + 1) l`, and erasing takes the element in the middle out
  rw [List.eraseIdx_eq_take_drop_succ]
  refine .trans (.of_eq ?_) List.perm_middle
  rw [List.getElem_cons_drop, List.take_append_drop]

def Accounted {D M : Type} (unpack : D → Option M) (done : List (Ev D)) (s : St D M) : Prop :=
  (s.handled ++ pending s.tasks).Perm (received unpack done) ∧ ∀ t ∈ s.tasks, ∃ m, t.src = .msg m

theorem received_snoc {D M : Type} (unpack : D → Option M) (done : List (Ev D)) (e : Ev D) :
    received unpack (done ++ [e]) = received unpack done ++ (arrival unpack e).toList := by
  cases h : arrival unpack e <;> simp [received, h]

theorem accounted_step {D M : Type} (unpack : D → Option M) (done : List (Ev D)) (s : St D M) (e : Ev D)
    (h : Accounted unpack done s) : Accounted unpack (done ++ [e]) (step unpack true s e) := by
  obtain ⟨hp, ha⟩ := h
  unfold Accounted
  rw [received_snoc]
  cases e with
  | recv a d =>
    cases hu : unpack d with
    | none =>
      simpa only [step, ↓reduceIte, hu, arrival, Option.map_none, Option.toList_none, List.append_nil] using And.intro hp ha
    | some m =>
      refine ⟨?_, ?_⟩
      · simpa [step, hu, arrival, pending, held, ← List.append_assoc] using hp.append_right [(a, m)]
      · simp only [step, hu, ↓reduceIte]
        exact List.forall_mem_append.mpr ⟨ha, List.forall_mem_singleton.mpr ⟨m, rfl⟩⟩
  | run i =>
    cases ht : s.tasks[i]? with
    | none => simpa only [step, ht, arrival, Option.toList_none, List.append_nil] using And.intro hp ha
    | some t =>
      obtain ⟨m, hm⟩ := ha t (List.mem_of_getElem? ht)
      -- the goroutine that ran moves from the pending ones to the replies written
      have h1 : (pending s.tasks).Perm ((t.addr, m) :: pending (s.tasks.eraseIdx i)) := by
        simpa [pending, held, hm] using (perm_cons_eraseIdx ht).filterMap (held (M := M))
      refine ⟨?_, fun t' h' => ha t' (List.mem_of_mem_eraseIdx (by simpa [step, ht, hm] using h'))⟩
      simpa [step, ht, hm, arrival] using (List.Perm.append_left s.handled h1.symm).trans hp

theorem udp_loop_accounting {D M : Type} (unpack : D → Option M) (evs : List (Ev D)) :
    ((run unpack true evs).handled ++ pending (run unpack true evs).tasks).Perm (received unpack evs) :=
  (Lts.foldl_trace_inv (accounted_step unpack) [] ⟨.refl _, by simp⟩ evs).1

/-- A reply is written to an address only for a query that arrived from that address. -/
theorem udp_loop_own_query {D M : Type} (unpack : D → Option M) (evs : List (Ev D)) (a : Nat) (m : M)
    (h : (a, m) ∈ (run unpack true evs).handled) : (a, m) ∈ received unpack evs :=
  (udp_loop_accounting unpack evs).subset (List.mem_append_left _ h)

/-- Once no goroutine is pending, every well-formed datagram was handled exactly once, for its sender. -/
theorem udp_loop_all_once {D M : Type} (unpack : D → Option M) (evs : List (Ev D))
    (h : (run unpack true evs).tasks = []) : (run unpack true evs).handled.Perm (received unpack evs) := by
  have := udp_loop_accounting unpack evs
  rw [h] at this
  simpa [pending] using this

/-- Unpacking in the goroutine is wrong: two datagrams queue up, both goroutines run after the second read;
the reply written to address 1 was computed from the datagram of address 2. -/
def lateSchedule : List (Ev Nat) := [.recv 1 10, .recv 2 20, .run 0, .run 0]
theorem udp_unpack_in_goroutine_is_wrong :
    (1, 20) ∈ (run (M := Nat) some false lateSchedule).handled ∧ (1, 20) ∉ received (M := Nat) some lateSchedule ∧
    (1, 10) ∉ (run (M := Nat) some false lateSchedule).handled := by decide

example : (run (M := Nat) some true lateSchedule).handled = [(1, 10), (2, 20)] := by decide
example : (run (M := Nat) (fun d => if d < 15 then none else some d) true lateSchedule).handled = [(2, 20)] := by decide

end udp

/-! ### Locally generated empty answers: the names of the fake SOA

`hosts.LookupMsg` answers a query whose entry has no address of the asked family with an empty NOERROR reply whose
authority section is `dnsutils.FakeSOA <query name>`. The reply is owed for every legal query name (up to 255 wire
octets), so every name inside it must itself fit 255 octets: `dns.Msg.Pack` does not check that, every parser does. -/
section fakeSoa

/-- wire lengths of the three names of an SOA: owner, MNAME, RNAME -/
structure SoaNames where
  owner : Nat
  ns : Nat
  mbox : Nat

/-- The SOA built for a name of `n` wire octets. `constant = true` is the code as built (string literals of `nsC` /
`mboxC` octets); `constant = false` derives MNAME and RNAME from the name by prepending labels of `nsPre` / `mboxPre`
octets ("in-zone" names). -/
def fakeSoaNames (constant : Bool) (nsC mboxC nsPre mboxPre n : Nat) : SoaNames :=
  if constant then ⟨n, nsC, mboxC⟩ else ⟨n, nsPre + n, mboxPre + n⟩

def SoaNames.fits (s : SoaNames) : Bool := decide (s.owner ≤ 255) && decide (s.ns ≤ 255) && decide (s.mbox ≤ 255)

/-- With constant MNAME / RNAME the record is well formed for EVERY legal query name. -/
theorem fakeSoa_constant_fits (nsC mboxC nsPre mboxPre n : Nat) (hn : n ≤ 255) (h1 : nsC ≤ 255) (h2 : mboxC ≤ 255) :
    (fakeSoaNames true nsC mboxC nsPre mboxPre n).fits = true := by
  simp [fakeSoaNames, SoaNames.fits, hn, h1, h2]

/-- With names derived from the query name, every query name longer than 255 - prefix octets gets a record no parser
accepts, whatever the constants are. -/
theorem fakeSoa_in_zone_overflows (nsC mboxC nsPre mboxPre n : Nat) (h : 255 < nsPre + n ∨ 255 < mboxPre + n) :
    (fakeSoaNames false nsC mboxC nsPre mboxPre n).fits = false := by
  simp [fakeSoaNames, SoaNames.fits]
  omega

/-- witness: "fake-mbox." (10 octets) in front of a legal name of 246 octets -/
theorem fakeSoa_in_zone_is_wrong : ∃ n, n ≤ 255 ∧ (fakeSoaNames false 26 28 8 10 n).fits = false :=
  ⟨246, by decide, by decide⟩

/-- As built (regenerated facts: Ns and Mbox are string literals, with their wire lengths): the fake SOA of an empty
local answer is well formed for every legal query name. Fails to compile when FakeSOA derives them from its argument. -/
theorem fakeSoa_as_built (nsPre mboxPre n : Nat) (hn : n ≤ 255) :
    (fakeSoaNames (Gen.Facts.c03FakeSoaNamesConstant == some true) (Gen.Facts.c03FakeSoaNsWire.getD 256)
      (Gen.Facts.c03FakeSoaMboxWire.getD 256) nsPre mboxPre n).fits = true :=
  fakeSoa_constant_fits _ _ _ _ n hn (by decide) (by decide)   -- the fact evaluates to `true`

end fakeSoa

theorem facts_guard :
    Gen.Facts.c03ValidityCheck = some true ∧ Gen.Facts.c03ServfailRefusedFromQuery = some true ∧
    Gen.Facts.c03RaForced = some true ∧ Gen.Facts.c03OptThenTruncateThenPack = some true ∧
    Gen.Facts.c03UdpSizeMin512 = some true ∧ Gen.Facts.c03CacheHitIdRewritten = some true ∧
    Gen.Facts.c03RedirectRestores = some true ∧ Gen.Facts.c03LocalAnswersUseSetReply = some true ∧
    Gen.Facts.c03UdpUnpackInReadLoop = some true ∧ Gen.Facts.c03RedirectRestoresCurrentQuery = some true ∧
    Gen.Facts.c03FakeSoaNamesConstant = some true ∧ Gen.Facts.c03FakeSoaNsWire = some 26 ∧
    Gen.Facts.c03FakeSoaMboxWire = some 28 := by decide

def qx : Question := ⟨[119, 119, 119], 1, 1⟩
def q0 : Msg := { id := 77, rd := true, question := [qx] }
def chain : Ctx → Ctx × Bool := redirect [99, 100, 110] (fun c => (localAnswer 0 [.rr [99, 100, 110] 1 60 9] [] c, false))
example : validQuery q0 = true := by decide
example : (reply chain (fun m _ => m) false q0).map (fun r => (r.id, r.question, r.qr, r.ra, r.answer.length)) =
    some (77, [qx], true, true, 2) := by decide
example : (reply (fun c => (c, true)) (fun m _ => m) false q0).map (fun r => (r.id, r.question, r.rcode)) = some (77, [qx], 2) := by decide
example : reply chain (fun m _ => m) false { q0 with qr := true } = none := by decide

end Props.C03

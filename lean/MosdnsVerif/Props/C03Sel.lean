import MosdnsVerif.Props.C03
import MosdnsVerif.Model.C03Sel

/-!
# C03 - plugins that replace the context (dual-stack selector) behind plugins that rewrite its query (redirect)

`Model.C03Sel`: the query is a heap object; the handler keeps a pointer to the one it received. The selector
replaces the context by a copy; a redirect in front of it restores the name through the pointer it read on
entry, i.e. on the old object.

* On every path the RECEIVED object has its ID and question back when a plugin returns, and a response echoes
  the query up to a name in force. Hence the reply carries the query's ID and question iff SERVFAIL / REFUSED
  are built from the received object (`reply_echo_swapped`, `synth_from_context_is_wrong`).
* Finding F13: with the redirect as it was (restore through the entry pointer only) the context's query kept
  the redirect target after such a chain, so a rule running after a sequence invoked as a plugin had RETURNED
  answered for the target (`old_redirect_*` witnesses). The repaired redirect (fact
  `c03RedirectRestoresCurrentQuery`) also restores the object the context points to now: the context's query
  comes back with its ID and question on every path (`runChain_respectsS true`), rules compose sequentially
  (`respectsS_seq`) and the reply is right for them too (`reply_echo_returned_chain`).
-/
namespace Props.C03
open Model.Handler Model.C03Sel

/-- ID and question: what of a query must come back unchanged (no relation to the cache keys of C04) -/
def key (m : Msg) : Nat × List Question := (m.id, m.question)

/-- `PreS` / `PostS` / `RespectsS` are `Inv` / `Respects` of `Props.C03` over the heap states `St` of `Model.C03Sel`
(the `S`, as in the model's `baseS`, `replyS`), split in two. `PreS`: what a plugin may assume when it is entered. -/
structure PreS (names : List Bytes) (s : St) : Prop where
  one : ∃ x, s.c.q.question = [x] ∧ names.head? = some x.name
  echo : EchoResp names s.c.q s.c.resp

/-- What a plugin guarantees when it returns (with or without an error), `s` being the state on entry; when the flag `w`
is set, the context's query - whichever object that is now - has the ID and question it had on entry as well.
A redirect that restores through both pointers passes it on (`respectsS_redirect`: `w && both`), so for a chain `w`
is the model's flag `both`. -/
structure PostS (w : Bool) (names : List Bytes) (s s' : St) : Prop where
  recv : s'.recv.map key = s.recv.map key
  echo : EchoResp names s.c.q s'.c.resp
  away : s.ptr ≠ 0 → s'.ptr ≠ 0     -- a context that left the received object does not come back to it
  ctxq : w = true → key s'.c.q = key s.c.q

def RespectsS (w : Bool) (f : St → St × Bool) : Prop := ∀ names s, PreS names s → PostS w names s (f s).1

theorem PostS.mono {w w' : Bool} {names : List Bytes} {s s' : St} (h : PostS w names s s') (hw : w' = true → w = true) :
    PostS w' names s s' :=
  ⟨h.recv, h.echo, h.away, fun h' => h.ctxq (hw h')⟩

theorem RespectsS.weaken {w : Bool} {f : St → St × Bool} (h : RespectsS w f) : RespectsS false f :=
  fun names s hp => (h names s hp).mono nofun

theorem lookup_map (id j : Nat) (f : Msg → Msg) (l : List (Nat × Msg)) :
    lookup id (l.map (fun p => if p.1 = j then (p.1, f p.2) else p)) =
      if id = j then (lookup id l).map f else lookup id l := by
  induction l with
  | nil => simp [lookup]
  | cons a t ih =>
    obtain ⟨i, m⟩ := a
    rw [List.map_cons, apply_ite (· :: _), apply_ite (lookup id)]
    simp only [lookup, ih]
    by_cases hid : i = id
    · subst hid; simp
    · simp [hid]

theorem obj_write (s : St) (j id : Nat) (f : Msg → Msg) :
    (s.write j f).obj id = if id = j then (s.obj id).map f else s.obj id := by
  unfold St.write St.obj
  by_cases hp : s.ptr = j
  · subst hp
    by_cases hid : id = s.ptr
    · simp [hid]
    · simp [hid, Ne.symm hid]
  · by_cases hid : id = j
    · subst hid; simp [hp, lookup_map]
    · simp [hp, hid, lookup_map]

@[simp] theorem write_resp (s : St) (j : Nat) (f : Msg → Msg) : (s.write j f).c.resp = s.c.resp := by
  unfold St.write; split <;> rfl

@[simp] theorem write_ptr (s : St) (j : Nat) (f : Msg → Msg) : (s.write j f).ptr = s.ptr := by
  unfold St.write; split <;> rfl

theorem write_q (s : St) (j : Nat) (f : Msg → Msg) : (s.write j f).c.q = if s.ptr = j then f s.c.q else s.c.q := by
  unfold St.write; split <;> rfl

@[simp] theorem write_ptr_q (s : St) (f : Msg → Msg) : (s.write s.ptr f).c.q = f s.c.q := by
  rw [write_q]; simp

theorem recv_write (s : St) (j : Nat) (f : Msg → Msg) :
    (s.write j f).recv = if 0 = j then s.recv.map f else s.recv := by
  unfold St.recv; exact obj_write s j 0 f

theorem fork_recv (s : St) : s.fork.recv = s.recv := by
  unfold St.recv St.obj St.fork
  simp [lookup]

theorem map_key_setName (n : Bytes) (o : Option Msg) :
    (o.map (setName n)).map key = (o.map key).map fun k => (k.1, k.2.map fun x => { x with name := n }) := by
  cases o <;> rfl

theorem restore_eq (both : Bool) (p : Nat) (target org : Bytes) (s : St) :
    restore both p target org s = s.write p (setName org) ∨
      s.ptr ≠ p ∧ restore both p target org s = (s.write p (setName org)).write s.ptr (setName org) := by
  unfold restore
  simp only [write_ptr]
  split
  · next hc =>
    simp only [Bool.and_eq_true, bne_iff_ne, ne_eq] at hc
    split
    · split
      · exact .inr ⟨hc.2, rfl⟩
      · exact .inl rfl
    · exact .inl rfl
  · exact .inl rfl

@[simp] theorem restore_resp (both : Bool) (p : Nat) (target org : Bytes) (s : St) :
    (restore both p target org s).c.resp = s.c.resp := by
  rcases restore_eq both p target org s with h | ⟨-, h⟩ <;> simp [h]

@[simp] theorem restore_ptr (both : Bool) (p : Nat) (target org : Bytes) (s : St) :
    (restore both p target org s).ptr = s.ptr := by
  rcases restore_eq both p target org s with h | ⟨-, h⟩ <;> simp [h]

/-- the received object sees the first restore only: the second one writes to an object that is not the
received one. `h` has the shape of `PostS.away` for the rest of the chain, `p` being the pointer on entry. -/
theorem restore_recv {both : Bool} {p : Nat} {target org : Bytes} {s : St} (h : p ≠ 0 → s.ptr ≠ 0) :
    (restore both p target org s).recv = if 0 = p then s.recv.map (setName org) else s.recv := by
  rcases restore_eq both p target org s with e | ⟨hp, e⟩
  · rw [e, recv_write]
  · have h0 : s.ptr ≠ 0 := if hp0 : p = 0 then hp0 ▸ hp else h hp0
    rw [e, recv_write, if_neg h0.symm, recv_write]

/-- if the context was not replaced, the first write reaches its query; if it was, the first write misses it, the
test finds the target and the second write reaches it -/
theorem restore_q (p : Nat) (target : Bytes) (x : Question) (s : St)
    (hq : s.c.q.question = [{ x with name := target }]) :
    key (restore true p target x.name s).c.q = (s.c.q.id, [x]) := by
  by_cases hp : s.ptr = p <;> simp [restore, write_q, hp, hq, key, setName]

/-- `redirect` on a name with a rule: `t` is the model's `s3`, the state `res.1` that the rest of the chain returned with
only its response rewritten (the question renamed back, the CNAME in front). -/
theorem redirect_eq (both : Bool) {rule : Question → Option Bytes} {next : St → St × Bool} {s : St} {x : Question}
    {target : Bytes} (hx : s.c.q.question = [x]) (hr : rule x = some target) {res : St × Bool}
    (hres : next (s.write s.ptr (setName target)) = res) :
    ∃ t : St, Model.C03Sel.redirect both rule next s = (restore both s.ptr target x.name t, res.2) ∧
      t.c.q = res.1.c.q ∧ t.ptr = res.1.ptr ∧ t.recv = res.1.recv ∧
      t.c.resp = res.1.c.resp.map fun m => { renameQ m target x.name with answer := .rr x.name 5 1 0 :: m.answer } := by
  simp only [Model.C03Sel.redirect, hx, hr, hres]
  cases h : res.1.c.resp <;> exact ⟨_, rfl, rfl, rfl, rfl, by simp [h]⟩

/-- The last plugin: it leaves the response alone or sets one that echoes the query it was handed; it does
not write the query. -/
def UpEcho (up : Ctx → Ctx × Bool) : Prop :=
  ∀ c r, (up c).1.resp = some r → c.resp = some r ∨ (r.id = c.q.id ∧ r.question = c.q.question ∧ r.qr = true)

theorem respectsS_last (w : Bool) (up : Ctx → Ctx × Bool) (hup : UpEcho up) : RespectsS w (last up) := by
  intro names s h
  refine ⟨rfl, ?_, fun hp => hp, fun _ => rfl⟩
  intro r hr
  rcases hup s.c r hr with h0 | ⟨h1, h2, h3⟩
  · exact h.echo r h0
  · obtain ⟨x, hx, hn⟩ := h.one
    exact EchoResp.some hx hn h1 (h2.trans hx) h3 r rfl

theorem localAnswer_echo {names : List Bytes} {s : St} (h : PreS names s) (rc : Nat) (an ns : List RR) :
    EchoResp names s.c.q (localAnswer rc an ns s.c).resp :=
  let ⟨_, hx, hn⟩ := h.one
  EchoResp.some hx hn rfl (by simp [setReply, hx]) rfl

/-- `next` run on `s` with the context swapped for one with the same query and an echoing response: what a plugin does
that sets or rewrites the response and goes on. -/
theorem RespectsS.withCtx {w : Bool} {next : St → St × Bool} (hn : RespectsS w next) {names : List Bytes} {s : St}
    (h : PreS names s) {c' : Ctx} (hq : c'.q = s.c.q) (he : EchoResp names s.c.q c'.resp) :
    PostS w names s (next { s with c := c' }).1 := by
  have := hn names { s with c := c' } ⟨hq ▸ h.one, hq ▸ he⟩
  have hr : ({ s with c := c' } : St).recv = s.recv := by simp [St.recv, St.obj, hq]
  exact ⟨hr ▸ this.recv, hq ▸ this.echo, this.away, hq ▸ this.ctxq⟩

/-- a locally generated answer as a rule of its own (`reject n`, hosts, black_hole, arbitrary) -/
theorem respectsS_localRule (w : Bool) (rc : Nat) (an ns : List RR) : RespectsS w (localRule rc an ns) :=
  fun _ _ h => RespectsS.withCtx (next := fun s => (s, false))   -- nothing comes after the answer
    (fun _ _ h' => ⟨rfl, h'.echo, id, fun _ => rfl⟩) h rfl (localAnswer_echo h rc an ns)

/-- **The dual-stack selector**: whichever path it takes - the query passed on unchanged, its own empty
answer, or the context REPLACED by the copy on which the query was run. -/
theorem respectsS_selector (w : Bool) (prefer : Nat) (known : Bool) (next : St → St × Bool) (hn : RespectsS w next) :
    RespectsS w (selector prefer known next) := by
  intro names s h
  have hblock : PostS w names s ({ s with c := localAnswer 0 [] [] s.c } : St) :=
    respectsS_localRule w 0 [] [] names s h    -- `(localRule 0 [] [] s).1` is that state
  have hpass : PostS w names s (next s.fork).1 := by
    have := hn names s.fork ⟨h.one, h.echo⟩
    exact ⟨by rw [this.recv, fork_recv], this.echo, fun _ => this.away (by simp [St.fork]), this.ctxq⟩
  obtain ⟨x, hx, -⟩ := h.one
  simp only [selector, hx]
  -- the two outer conditions by hand: `split` on the outermost of n nested `if`s costs about 2^n to check
  by_cases h1 : x.qtype ≠ 1 ∧ x.qtype ≠ 28
  · rw [if_pos h1]
    exact hn names s h    -- neither A nor AAAA: passed on
  by_cases h2 : x.qtype = prefer
  · rw [if_neg h1, if_pos h2]
    exact hn names s h    -- the preferred type: passed on
  rw [if_neg h1, if_neg h2]
  split
  · exact hblock          -- the name is known to have the preferred type: the selector's own empty answer
  split
  · exact hblock          -- so says the reference query: the same
  · exact hpass           -- the context replaced by the copy the query ran on

/-- **redirect**: the received object gets its name back whether or not the context still points to it
(either version); with both restores the context's query does too. -/
theorem respectsS_redirect (w both : Bool) (rule : Question → Option Bytes) (next : St → St × Bool) (hn : RespectsS w next) :
    RespectsS (w && both) (Model.C03Sel.redirect both rule next) := by
  intro names s h
  obtain ⟨x, hx, hhead⟩ := h.one
  cases hrule : rule x with
  | none =>
    simp only [Model.C03Sel.redirect, hx, hrule]
    exact (hn names s h).mono fun hw => (Bool.and_eq_true_iff.mp hw).1
  | some target =>
    have hq1 : (s.write s.ptr (setName target)).c.q.question = [{ x with name := target }] := by
      simp [setName, hx]
    have hid1 : (s.write s.ptr (setName target)).c.q.id = s.c.q.id := by simp [setName]
    have hout := hn (target :: names) _ ⟨⟨_, hq1, rfl⟩, by rw [write_resp]; exact h.echo.push hx hid1 hq1⟩
    generalize hres : next _ = res at hout
    obtain ⟨t, ht, tq, tptr, trecv, tresp⟩ := redirect_eq both hx hrule hres
    rw [ht]
    show PostS _ _ _ (restore ..)
    have haway : s.ptr ≠ 0 → t.ptr ≠ 0 := fun hp => tptr ▸ hout.away (by rwa [write_ptr])
    refine ⟨?_, ?_, by rwa [restore_ptr], ?_⟩
    · have h2 := hout.recv
      rw [recv_write] at h2
      rw [restore_recv haway, trecv]
      by_cases hp : 0 = s.ptr
      · -- the context still points to the received object: renamed to the target and back
        have hsr : s.recv = some s.c.q := by simp [St.recv, St.obj, ← hp]
        rw [if_pos hp] at h2 ⊢
        rw [map_key_setName, h2, map_key_setName, hsr]
        simp [key, hx]
      · simpa only [hp, if_false] using h2
    · rw [restore_resp, tresp]
      exact hout.echo.pop hx (List.mem_of_mem_head? hhead) hid1 hq1
    · intro hw
      obtain ⟨hw1, rfl⟩ := Bool.and_eq_true_iff.mp hw
      have hk : key t.c.q = key (s.write s.ptr (setName target)).c.q := tq ▸ hout.ctxq hw1
      rw [restore_q s.ptr target x _ ((congrArg Prod.snd hk).trans hq1)]
      exact Prod.ext ((congrArg Prod.fst hk).trans hid1) hx.symm

def PlugOk : Plug → Prop
  | .mapResp f => ∀ m, (f m).id = m.id ∧ (f m).question = m.question ∧ (f m).qr = m.qr
  | _ => True

/-- **Every chain** of redirects, selectors, response-rewriting plugins and locally generated answers, in any
order and nesting, in front of an echoing last plugin: with `both = false` (the redirect as it was) the
received object and the response are right; with `both = true` (as repaired) the context's query is, too. -/
theorem runChain_respectsS (both : Bool) (up : Ctx → Ctx × Bool) (hup : UpEcho up) (chain : List Plug) (hok : ∀ p ∈ chain, PlugOk p) :
    RespectsS both (runChain both up chain) := by
  induction chain with
  | nil => exact respectsS_last both up hup
  | cons p rest ih =>
    have ih := ih (fun p hp => hok p (List.mem_cons_of_mem _ hp))
    cases p with
    | redirect rule =>
      have := respectsS_redirect both both rule _ ih
      rwa [Bool.and_self] at this
    | selector prefer known => exact respectsS_selector both prefer known _ ih
    | mapResp f => exact fun names s h => ih.withCtx h rfl (h.echo.map (hok (.mapResp f) (List.mem_cons_self ..)))
    | localAns rc an ns => exact fun names s h => ih.withCtx h rfl (localAnswer_echo h rc an ns)

/-- **Rules one after the other** (finding F13): when the first one - e.g. a sequence invoked as a plugin -
returns with the context's query intact, the next one may assume what the first one could, and the pair
guarantees what each does. Needs `w = true`: with the old redirect this is false (`old_redirect_*`). -/
theorem respectsS_seq (f g : St → St × Bool) (hf : RespectsS true f) (hg : RespectsS true g) : RespectsS true (seq f g) := by
  intro names s h
  have h1 := hf names s h
  unfold seq
  simp only
  split
  · exact h1
  · have hk := h1.ctxq rfl
    have hid : (f s).1.c.q.id = s.c.q.id := congrArg Prod.fst hk
    have hqq : (f s).1.c.q.question = s.c.q.question := congrArg Prod.snd hk
    have h2 := hg names _ ⟨hqq ▸ h.one, h1.echo.congr hid hqq⟩
    exact ⟨h2.recv.trans h1.recv, h2.echo.congr hid.symm hqq.symm, fun hp => h2.away (h1.away hp),
      fun _ => (h2.ctxq rfl).trans hk⟩

/-- **C03 with the context replaced under way.** With SERVFAIL / REFUSED built from the RECEIVED message,
every well-formed query gets a reply with its own ID and question, QR and RA set and the rcode of the path
taken - for every entry that respects the heap invariant, in particular (`runChain_respectsS`) every chain
of redirects and dual-stack selectors. -/
theorem reply_echo_swapped (w : Bool) (entry : St → St × Bool) (hent : RespectsS w entry)
    (truncate : Msg → Nat → Msg) (ht : TruncKeeps truncate) (udp : Bool) (q : Msg) (hv : validQuery q = true) :
    ∃ r, replyS true entry truncate udp q = some r ∧ r.id = q.id ∧ r.question = q.question ∧ r.qr = true ∧ r.ra = true ∧
      ((entry (initial q)).2 = true → r.rcode = 2) ∧
      ((entry (initial q)).2 = false → (entry (initial q)).1.c.resp = none → r.rcode = 5) ∧
      (∀ a, (entry (initial q)).2 = false → (entry (initial q)).1.c.resp = some a → r.rcode = a.rcode) := by
  obtain ⟨x, hx⟩ := validQuery_one hv
  have hpost := hent [x.name] (initial q) ⟨⟨x, hx, rfl⟩, EchoResp.none⟩
  -- `(initial q).recv.map key` evaluates to `some (key q)`, which is the form `hpost.recv` is used in
  obtain ⟨m, hm, hkm⟩ : ∃ m, (entry (initial q)).1.recv = some m ∧ key m = key q :=
    Option.map_eq_some_iff.mp hpost.recv
  obtain ⟨r, hr, h⟩ := finish_echo ht udp (entry (initial q)).1.c (src := (entry (initial q)).1.recv.getD (entry (initial q)).1.c.q)
    hx (by rw [hm]; exact congrArg Prod.fst hkm) (by rw [hm]; exact congrArg Prod.snd hkm) hpost.echo (entry (initial q)).2
  exact ⟨r, by simp only [replyS, hv]; exact congrArg some hr, h⟩

/-- the code as regenerated: both synthesised replies are `SetReply(q)` of the received message, redirect
restores through both pointers -/
theorem reply_echo_swapped_as_built (up : Ctx → Ctx × Bool) (hup : UpEcho up) (chain : List Plug) (hok : ∀ p ∈ chain, PlugOk p)
    (truncate : Msg → Nat → Msg) (ht : TruncKeeps truncate) (udp : Bool) (q : Msg) (hv : validQuery q = true) :
    ∃ r, replyS (Gen.Facts.c03ServfailRefusedFromQuery == some true)
        (runChain (Gen.Facts.c03RedirectRestoresCurrentQuery == some true) up chain) truncate udp q = some r ∧
      r.id = q.id ∧ r.question = q.question ∧ r.qr = true ∧ r.ra = true := by
  -- the fact evaluates to `true`
  obtain ⟨r, h1, h2, h3, h4, h5, _⟩ := reply_echo_swapped _ _ (runChain_respectsS _ up hup chain hok) truncate ht udp q hv
  exact ⟨r, h1, h2, h3, h4, h5⟩

/-- **F13, repaired.** A chain that was invoked as a plugin and RETURNED, followed by a rule that answers
locally (`exec: $sub` then `reject n` / hosts / black_hole / arbitrary), followed by whatever respects the
invariant: the reply carries the client's ID and question. -/
theorem reply_echo_returned_chain (up : Ctx → Ctx × Bool) (hup : UpEcho up) (chain : List Plug) (hok : ∀ p ∈ chain, PlugOk p)
    (rc : Nat) (an ns : List RR) (truncate : Msg → Nat → Msg) (ht : TruncKeeps truncate) (udp : Bool) (q : Msg)
    (hv : validQuery q = true) :
    ∃ r, replyS true (seq (runChain true up chain) (localRule rc an ns)) truncate udp q = some r ∧
      r.id = q.id ∧ r.question = q.question ∧ r.qr = true ∧ r.ra = true ∧
      ((runChain true up chain (initial q)).2 = false → r.rcode = rc) := by
  have hresp := respectsS_seq _ _ (runChain_respectsS true up hup chain hok) (respectsS_localRule true rc an ns)
  obtain ⟨r, h1, h2, h3, h4, h5, _, _, h8⟩ := reply_echo_swapped true _ hresp truncate ht udp q hv
  refine ⟨r, h1, h2, h3, h4, h5, ?_⟩
  intro hne
  have hseq : seq (runChain true up chain) (localRule rc an ns) (initial q) =
      localRule rc an ns (runChain true up chain (initial q)).1 := by simp [seq, hne]
  rw [hseq] at h8
  exact h8 _ rfl rfl

/-- the same with the flag read from the regenerated fact -/
theorem reply_echo_returned_chain_as_built (up : Ctx → Ctx × Bool) (hup : UpEcho up) (chain : List Plug) (hok : ∀ p ∈ chain, PlugOk p)
    (rc : Nat) (an ns : List RR) (truncate : Msg → Nat → Msg) (ht : TruncKeeps truncate) (udp : Bool) (q : Msg)
    (hv : validQuery q = true) :
    ∃ r, replyS true (seq (runChain (Gen.Facts.c03RedirectRestoresCurrentQuery == some true) up chain) (localRule rc an ns))
        truncate udp q = some r ∧ r.id = q.id ∧ r.question = q.question ∧ r.qr = true ∧ r.ra = true := by
  -- the fact evaluates to `true`
  obtain ⟨r, h1, h2, h3, h4, h5, _⟩ := reply_echo_returned_chain up hup chain hok rc an ns truncate ht udp q hv
  exact ⟨r, h1, h2, h3, h4, h5⟩

def aliasN : Bytes := [97]
def targetN : Bytes := [116]
/-- AAAA query for a name with a redirect rule; the name has no A record, the upstream fails for AAAA -/
def qSel : Msg := { id := 4242, rd := true, question := [⟨aliasN, 28, 1⟩] }
def upSel (c : Ctx) : Ctx × Bool :=
  match c.q.question with
  | [x] => if x.qtype = 1 then (upstreamAnswer (setReply c.q) c, false) else (c, true)
  | _ => (c, true)
def upSilent (c : Ctx) : Ctx × Bool :=
  match c.q.question with
  | [x] => if x.qtype = 1 then (upstreamAnswer (setReply c.q) c, false) else (c, false)
  | _ => (c, false)
def chainSel : List Plug := [.redirect (fun x => if x.name = aliasN then some targetN else none), .selector 1 false]

/-- redirect -> prefer_ipv4 -> failing / silent upstream, with the redirect as it was: a handler that builds
SERVFAIL / REFUSED from the context's query answers with the redirect TARGET as question name; the handler as
written does not. -/
theorem synth_from_context_is_wrong :
    (replyS false (runChain false upSel chainSel) (fun m _ => m) false qSel).map (fun r => (r.id, r.question, r.rcode)) =
      some (4242, [⟨targetN, 28, 1⟩], 2) ∧
    (replyS false (runChain false upSilent chainSel) (fun m _ => m) false qSel).map (fun r => (r.id, r.question, r.rcode)) =
      some (4242, [⟨targetN, 28, 1⟩], 5) ∧
    (replyS true (runChain false upSel chainSel) (fun m _ => m) false qSel).map (fun r => (r.id, r.question, r.rcode)) =
      some (4242, [⟨aliasN, 28, 1⟩], 2) ∧
    (replyS true (runChain false upSilent chainSel) (fun m _ => m) false qSel).map (fun r => (r.id, r.question, r.rcode)) =
      some (4242, [⟨aliasN, 28, 1⟩], 5) := by decide

/-- **F13, the redirect as it was**: after the chain the received object has the client's name, the context's
query has the redirect target (so `Props.C03.Inv` fails for such a chain and `reply_echo` does not cover it). -/
theorem old_redirect_context_query_not_restored :
    ((runChain false upSel chainSel (initial qSel)).1.c.q.question, (runChain false upSel chainSel (initial qSel)).1.recv.map (·.question)) =
      ([⟨targetN, 28, 1⟩], some [⟨aliasN, 28, 1⟩]) := by decide

/-- **F13, the redirect as it was**: sub = redirect, prefer_ipv4, upstream without AAAA answer, invoked as a
plugin; the caller's next rule is `reject 3`. The reply echoes the redirect TARGET although the handler
synthesises from the received message. (Observed on the code before the repair.) -/
theorem old_redirect_answer_after_returned_chain_echoes_target :
    (replyS true (seq (runChain false upSilent chainSel) (localRule 3 [] [])) (fun m _ => m) false qSel).map
      (fun r => (r.id, r.question, r.rcode)) = some (4242, [⟨targetN, 28, 1⟩], 3) := by decide

/-- the same inputs with the repaired redirect -/
theorem new_redirect_witnesses :
    ((runChain true upSel chainSel (initial qSel)).1.c.q.question, (runChain true upSel chainSel (initial qSel)).1.recv.map (·.question)) =
      ([⟨aliasN, 28, 1⟩], some [⟨aliasN, 28, 1⟩]) ∧
    (replyS true (seq (runChain true upSilent chainSel) (localRule 3 [] [])) (fun m _ => m) false qSel).map
      (fun r => (r.id, r.question, r.rcode)) = some (4242, [⟨aliasN, 28, 1⟩], 3) := by decide

end Props.C03

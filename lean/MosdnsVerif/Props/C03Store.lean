import MosdnsVerif.Model.C03Store
import MosdnsVerif.Gen.Facts

/-! C03, redirect x cache over several queries (Model.C03Store).

* With `copyNoOpt` allocating the stored message's own Question slice (fact `c03CacheStoreCopiesQuestion`) no entry of
  any cache is ever changed after it was stored, whatever chain of redirects, caches and accepts runs whatever query
  (`run_keeps_entries`); with a shared slice the usual configuration redirect -> cache -> forward answers a direct query
  for the redirect target with the alias as question (`shared_question_is_wrong`).
* With `cache.Exec` storing only a response that is new since the rest of its chain ran (fact
  `c03CacheStoresOnlyNewResponse`, finding F16) every entry a cache stores carries the question the cache was asked:
  `Sound` is preserved by every chain from every context, also one that already holds a response produced for another
  question (`run_post`), so every query of a history gets its own ID and question (`history_own_question`); comparing
  with the cache's own hit only, a response set in front of a redirect is stored under the target's key
  (`stores_earlier_response_is_wrong`). -/
namespace Props.C03Store
open Model.C03Store

def Unshared (w : World) : Prop := ∀ e ∈ w.entries, e.shared = none

theorem renameShared_unshared {es : List Entry} (h : ∀ e ∈ es, e.shared = none) (cell : Nat) (n : Bytes) :
    renameShared cell n es = es :=
  (List.map_congr_left fun e he => by simp [h e he]).trans (List.map_id es)

def Keeps (w w' : World) : Prop := Unshared w' ∧ ∃ new, w'.entries = new ++ w.entries

theorem finishCache_cases (i : Nat) (key : Bytes × Bool) (before : Option Nat) (res : Ctx × World) :
    finishCache true i key before res = res ∨ ∃ r, res.1.resp = some r ∧ before ≠ some r.obj ∧
      finishCache true i key before res =
        (res.1, { res.2 with entries := ⟨i, key, r.qname, r.rcode, none⟩ :: res.2.entries }) := by
  unfold finishCache
  split
  · next r hr =>
    split
    · exact .inl rfl
    · next hne => exact .inr ⟨r, hr, hne, rfl⟩
  · exact .inl rfl

theorem keeps_finish {w : World} {i : Nat} {key : Bytes × Bool} {before : Option Nat} {res : Ctx × World}
    (h : Keeps w res.2) : Keeps w (finishCache true i key before res).2 := by
  rcases finishCache_cases i key before res with e | ⟨r, -, -, e⟩ <;> rw [e]
  · exact h
  · obtain ⟨hu, new, hn⟩ := h
    exact ⟨List.forall_mem_cons.mpr ⟨rfl, hu⟩, _ :: new, congrArg (_ :: ·) hn⟩

/-- **Stored entries are immutable when the stored message has its own Question slice**: any chain, any query, any
earlier contents of the caches, either store condition. -/
theorem run_keeps_entries (sn : Bool) (chain : List Plug) :
    ∀ (c : Ctx) (w : World), Unshared w → Keeps w (run true sn chain c w).2 := by
  intro c w hw
  fun_induction run true sn chain c w
  -- the end of the chain (with a response; without, the upstream answers), accept with a response: no cache is touched
  case case1 | case2 | case3 => exact ⟨hw, [], rfl⟩
  -- accept without a response, a redirect whose pattern does not match: the rest of the chain
  case case4 ih | case8 ih => exact ih hw
  -- redirect, the rest answered for the target: entries sharing the reply's question would be renamed, but none is shared
  case case5 hrun ih =>   -- `fun_induction` has put `r.qname` for the target here, so this arm has no equation about it
    have h := ih hw
    rw [hrun] at h
    rwa [renameShared_unshared h.1]
  -- redirect, the rest answered for another name or not at all: the caches as the rest left them
  case case6 hrun _ _ _ ih | case7 hrun _ ih =>
    have h := ih hw
    rwa [hrun] at h
  -- cache, hit or miss: the rest, then at most one new entry
  case case9 ih | case10 ih => exact keeps_finish (ih hw)

/-! ### Every stored entry carries the question its cache was asked (F16) -/

def Sound (w : World) : Prop := ∀ e ∈ w.entries, e.shared = none ∧ e.qname = e.key.1

theorem Sound.unshared {w : World} (h : Sound w) : Unshared w := fun e he => (h e he).1

/-- What a chain does to a context that may already hold a response (objects below `w.fresh` existed before):
the query is restored; a response object that is NEW carries the query's question and ID; an OLD one is the object the
context held before, possibly renamed by a redirect to the query's name. -/
structure Post (c : Ctx) (w : World) (c' : Ctx) (w' : World) : Prop where
  qname : c'.qname = c.qname
  qid : c'.qid = c.qid
  cd : c'.cd = c.cd
  mono : w.fresh ≤ w'.fresh
  sound : Sound w'
  wf : ∀ r', c'.resp = some r' → r'.obj < w'.fresh
  new : ∀ r', c'.resp = some r' → w.fresh ≤ r'.obj → r'.qname = c.qname ∧ r'.id = c.qid
  old : ∀ r', c'.resp = some r' → r'.obj < w.fresh →
    ∃ r, c.resp = some r ∧ r.obj = r'.obj ∧ r'.id = r.id ∧ (r'.qname = r.qname ∨ r'.qname = c.qname)

theorem post_stay {c : Ctx} {w : World} (hs : Sound w) (hp : ∀ r, c.resp = some r → r.obj < w.fresh) : Post c w c w :=
  ⟨rfl, rfl, rfl, Nat.le_refl _, hs, hp,
   fun r' hr hge => absurd (hp r' hr) (by omega),
   fun r' hr _ => ⟨r', hr, rfl, rfl, Or.inl rfl⟩⟩

theorem lookup_sound {w : World} (hs : Sound w) {i : Nat} {key : Bytes × Bool} {e : Entry}
    (h : lookup w i key = some e) : e.qname = key.1 := by
  unfold lookup at h
  have hm := List.mem_of_find?_eq_some h
  have hp := List.find?_some h
  simp only [Bool.and_eq_true, beq_iff_eq] at hp
  rw [(hs e hm).2, hp.2]

theorem Post.other_resp {c c' : Ctx} {w w' : World} (h : Post c w c' w') {r : Resp} (hr : c'.resp = some r)
    (hne : c.resp.map (·.obj) ≠ some r.obj) : r.qname = c.qname ∧ r.id = c.qid := by
  by_cases hlt : r.obj < w.fresh
  · obtain ⟨r0, h0, ho, _⟩ := h.old r hr hlt
    exact absurd (by simp [h0, ho]) hne
  · exact h.new r hr (by omega)

theorem Post.finish {c : Ctx} {w : World} {res : Ctx × World} (h : Post c w res.1 res.2) (i : Nat) :
    Post c w (finishCache true i (c.qname, c.cd) (c.resp.map (·.obj)) res).1
      (finishCache true i (c.qname, c.cd) (c.resp.map (·.obj)) res).2 := by
  rcases finishCache_cases i (c.qname, c.cd) (c.resp.map (·.obj)) res with e | ⟨r, hr, hne, e⟩ <;> rw [e]
  · exact h
  · exact { h with sound := List.forall_mem_cons.mpr ⟨⟨rfl, (h.other_resp hr hne).1⟩, h.sound⟩ }

/-- A hit (the two objects at `w.fresh`, with the stored question, which is the question asked) counts as a
new response. -/
theorem Post.of_hit {c c' : Ctx} {w w' : World} {e : Entry} (he : e.qname = c.qname)
    (h : Post { c with resp := some (hitResp c w e) } { w with fresh := w.fresh + 2 } c' w') : Post c w c' w' := by
  -- an object below `w.fresh + 2` can only be the hit itself
  have hold : ∀ r', c'.resp = some r' → r'.obj < w.fresh + 2 → r'.obj = w.fresh ∧ r'.qname = c.qname ∧ r'.id = c.qid := by
    intro r' hr' hlt
    obtain ⟨r0, h0, ho, hi, hq⟩ := h.old r' hr' hlt
    cases h0
    exact ⟨ho.symm, hq.elim (·.trans he) id, hi⟩
  refine ⟨h.qname, h.qid, h.cd, Nat.le_of_succ_le (Nat.le_of_succ_le h.mono), h.sound, h.wf, ?_, ?_⟩
  · intro r' hr' hge
    by_cases hlt : r'.obj < w.fresh + 2
    · exact (hold r' hr' hlt).2
    · exact h.new r' hr' (Nat.le_of_not_lt hlt)
  · intro r' hr' hlt
    exact absurd (hold r' hr' (by omega)).1 (by omega)

theorem Post.redirect {c c2 : Ctx} {w w2 : World} {target : Bytes} (h : Post { c with qname := target } w c2 w2) :
    Post c w { c2 with qname := c.qname,
                       resp := c2.resp.map fun r => if r.qname = target then { r with qname := c.qname } else r } w2 := by
  have hresp : ∀ r', (c2.resp.map fun r => if r.qname = target then { r with qname := c.qname } else r) = some r' →
      ∃ r, c2.resp = some r ∧ r'.obj = r.obj ∧ r'.id = r.id ∧
        (r'.qname = c.qname ∧ r.qname = target ∨ r'.qname = r.qname ∧ r.qname ≠ target) := by
    intro r' hr'
    obtain ⟨r, hr, rfl⟩ := Option.map_eq_some_iff.mp hr'
    exact ⟨r, hr, by split <;> simp [*]⟩
  refine ⟨rfl, h.qid, h.cd, h.mono, h.sound, ?_, ?_, ?_⟩
  · intro r' hr'
    obtain ⟨r, hr, ho, -⟩ := hresp r' hr'
    exact ho ▸ h.wf r hr
  · intro r' hr' hge
    obtain ⟨r, hr, ho, hi, hq⟩ := hresp r' hr'
    have := h.new r hr (ho ▸ hge)
    exact ⟨hq.elim (·.1) (fun hq => absurd this.1 hq.2), hi ▸ this.2⟩
  · intro r' hr' hlt
    obtain ⟨r, hr, ho, hi, hq⟩ := hresp r' hr'
    obtain ⟨r0, h0, ho0, hi0, hq0⟩ := h.old r hr (ho ▸ hlt)
    refine ⟨r0, h0, ho0.trans ho.symm, hi.trans hi0, ?_⟩
    rcases hq with ⟨hq, -⟩ | ⟨hq, hne⟩
    · exact .inr hq
    · exact .inl (hq.trans (hq0.resolve_right hne))

/-- **As built (own Question slice, only new responses are stored): any chain of redirects, caches and accepts in front
of an echoing upstream, from any context - also one that already holds a response for another question.** -/
theorem run_post (chain : List Plug) :
    ∀ (c : Ctx) (w : World), Sound w → (∀ r, c.resp = some r → r.obj < w.fresh) →
      Post c w (run true true chain c w).1 (run true true chain c w).2 := by
  intro c w hs hp
  fun_induction run true true chain c w
  -- the end of the chain with a response, accept with a response: nothing happens
  case case1 | case3 => exact post_stay hs hp
  -- the end of the chain without a response: the upstream answers with a new object
  case case2 =>
    refine ⟨rfl, rfl, rfl, by simp, hs, ?_, ?_, ?_⟩ <;> rintro _ ⟨⟩
    · simp
    · exact fun _ => ⟨rfl, rfl⟩
    · exact fun hlt => absurd hlt (Nat.lt_irrefl _)
  -- accept without a response, a redirect whose pattern does not match: the rest of the chain
  case case4 ih | case8 ih => exact ih hs hp
  -- redirect, the rest answered for the target: nothing is renamed in the caches, for no entry is shared
  case case5 r hr hrun ih =>
    have h := ih hs hp
    rw [hrun] at h
    rw [renameShared_unshared h.sound.unshared]
    simpa [hr] using h.redirect
  -- redirect, the rest answered for another name
  case case6 hrun r hr hne ih =>
    have h := ih hs hp
    rw [hrun] at h
    simpa [hr, hne] using h.redirect
  -- redirect, the rest did not answer
  case case7 hrun hr ih =>
    have h := ih hs hp
    rw [hrun] at h
    simpa [hr] using h.redirect
  -- cache, hit: the rest runs from the hit, a new response. `Post.finish` is stated for the context `c` the rest ran from; the model's
  -- `before` (here `some w.fresh`, at the miss `c.resp.map (·.obj)` under an `if true`) and key reduce to that form by unfolding
  case case9 e he ih =>
    exact .of_hit (lookup_sound hs he) ((ih hs (by rintro _ ⟨⟩; simp [hitResp])).finish _)
  -- cache, miss
  case case10 ih => exact (ih hs hp).finish _

/-- every query of a history gets a reply with its own ID and question, and the caches stay sound -/
theorem history_own_question (chain : List Plug) :
    ∀ (qs : List (Nat × Bytes × Bool)) (w : World), Sound w →
      (history true true chain qs w).map (fun r => (r.1, r.2.1)) = qs.map (fun q => (q.1, q.2.1)) := by
  intro qs w hs
  fun_induction history true true chain qs w
  case case1 => rfl
  case case2 id name cd qs w r ih =>
    have h : Post _ w r.1 r.2 := run_post chain _ w hs nofun
    rw [List.map_cons, List.map_cons, ih h.sound]
    congr 1
    unfold replyOf
    split
    · next r hr => simp [h.other_resp hr nofun]
    · simp [h.qid, h.qname]

/-! ### The usual configuration: redirect(alias -> target) -> cache -> [has_resp] accept -> forward -/
def alias : Bytes := [97, 46]
def target : Bytes := [116, 46]
def usual : List Plug := [.redirect alias target, .cache 0, .accept]

/-- alias (miss: stored under the target's key), then the target asked directly (hit), then the alias again:
as built, every reply carries its own ID and question -/
theorem own_question_as_built :
    history true true usual [(1001, alias, false), (1002, target, false), (1003, alias, false)] {} =
      [(1001, alias, 0), (1002, target, 0), (1003, alias, 0)] := by decide

/-- with the stored message sharing its Question slice with the live reply, redirect's in-place restore renames the
stored entry: the direct query for the target is answered with the alias as question -/
theorem shared_question_is_wrong :
    history false true usual [(1001, alias, false), (1002, target, false), (1003, alias, false)] {} =
      [(1001, alias, 0), (1002, alias, 0), (1003, alias, 0)] := by decide

/-- the cache above the redirect is not affected either way -/
theorem cache_above_redirect_either_way (b : Bool) :
    history b true [.cache 0, .accept, .redirect alias target] [(1, alias, false), (2, target, false), (3, alias, false)] {} =
      [(1, alias, 0), (2, target, 0), (3, alias, 0)] := by cases b <;> decide

/-! ### F16: cache -> redirect(alias -> target) -> cache -> [!has_resp] forward, the upper cache holding an entry for the
alias the lower cache has none for (the lower one did not keep the empty answer; the upper one kept it with redirect's
CNAME) -/
def twoCaches : List Plug := [.cache 0, .redirect alias target, .cache 1]
def upperOnly : World := { entries := [{ cache := 0, key := (alias, false), qname := alias, rcode := 0, shared := none }], fresh := 0 }

theorem upperOnly_sound : Sound upperOnly := List.forall_mem_singleton.mpr ⟨rfl, rfl⟩

/-- the store condition before F16 (`cachedResp != r`): the upper cache's hit for the alias reaches the lower cache
behind the redirect, which misses and stores it under the TARGET's key; the direct query for the target is answered
with the alias as question -/
theorem stores_earlier_response_is_wrong :
    history true false twoCaches [(1002, alias, false), (1003, target, false)] upperOnly =
      [(1002, alias, 0), (1003, alias, 0)] := by decide

/-- the same history with the store condition as built (`rBefore != r`) -/
theorem stores_only_new_response_as_built :
    history true true twoCaches [(1002, alias, false), (1003, target, false)] upperOnly =
      [(1002, alias, 0), (1003, target, 0)] := by decide

/-! ### F17: the background refresh of a lazy cache runs on a copy of the context that may already carry a response -/

/-- as built (`rBefore != r` in the refresh): whatever the copied context carries and whatever the plugins behind the
cache are, the caches stay sound - the refresh stores only a response for the question the cache was asked -/
theorem lazyRefresh_sound (i : Nat) (rest : List Plug) (c : Ctx) (w : World) (hs : Sound w) :
    Sound (lazyRefresh true i rest c w) :=
  ((run_post rest { c with resp := c.resp.map (fun r => { r with obj := w.fresh, qcell := w.fresh + 1 }) }
    { w with fresh := w.fresh + 2 } hs (by
      intro r hr
      obtain ⟨r0, -, rfl⟩ := Option.map_eq_some_iff.mp hr
      exact Nat.lt_add_of_pos_right (by decide))).finish i).sound

/-- the lower, lazy cache of `twoCaches` has a stale hit for the target while the context carries the upper cache's hit
for the alias; behind the lower cache is only the `[!has_resp]` upstream -/
def carriesAliasHit : Ctx :=
  { qid := 7, qname := target, cd := false, resp := some { id := 7, qname := alias, rcode := 0, obj := 0, qcell := 1 } }
def noEntries : World := { entries := [], fresh := 2 }

/-- the refresh before F17 (`r != nil`): the alias answer is stored under the TARGET's key -/
theorem lazy_refresh_stores_earlier_response_is_wrong :
    (lazyRefresh false 1 [] carriesAliasHit noEntries).entries =
      [{ cache := 1, key := (target, false), qname := alias, rcode := 0, shared := none }] := by decide

theorem lazy_refresh_as_built : (lazyRefresh true 1 [] carriesAliasHit noEntries).entries = [] := by decide

theorem facts_guard_store :
    Gen.Facts.c03CacheStoreCopiesQuestion = some true ∧ Gen.Facts.c03CacheStoresOnlyNewResponse = some true ∧
      Gen.Facts.c03LazyUpdateStoresOnlyNewResponse = some true := by decide

end Props.C03Store

import MosdnsVerif.Refine.C04
import MosdnsVerif.Gen.Facts
import MosdnsVerif.Lemmas.Lts

/-!
# C04 — a cached answer is only served to the same question

The key is `Gen.getMsgKey`, the definition regenerated from
`plugin/executable/cache/utils.go` on every run; `Refine.C04.getMsgKey_eq`
identifies it with the model's `msgKey`, in which stores, reloads and chains are stated.
-/
namespace Props.C04
open Base Model.C04

theorem u16_split (a b : UInt16)
    (hhi : (a >>> 8).toUInt8 = (b >>> 8).toUInt8) (hlo : a.toUInt8 = b.toUInt8) : a = b := by
  apply UInt16.toNat_inj.mp
  have h1 := congrArg UInt8.toNat hhi
  have h2 := congrArg UInt8.toNat hlo
  simp [UInt16.toNat_shiftRight, Nat.shiftRight_eq_div_pow] at h1 h2
  -- a 16-bit number is 256 * its high byte + its low byte, and the high byte is below 256 as it is
  have hi (x : UInt16) : x.toNat / 256 % 256 = x.toNat / 256 :=
    Nat.mod_eq_of_lt (Nat.div_lt_of_lt_mul (show x.toNat < 256 * 256 from x.toNat_lt))
  rw [hi, hi] at h1
  rw [← Nat.div_add_mod a.toNat 256, h1, h2, Nat.div_add_mod]

theorem flags_decode (q : Query) :
    (q.ad, q.cd, q.dnssecOk) = (flags q &&& 1 != 0, flags q &&& 2 != 0, flags q &&& 4 != 0) := by
  unfold flags
  cases q.ad <;> cases q.cd <;> cases q.dnssecOk <;> decide

theorem flags_inj (a b : Query) (h : flags a = flags b) :
    a.ad = b.ad ∧ a.cd = b.cd ∧ a.dnssecOk = b.dnssecOk := by
  have := flags_decode a
  rw [h, ← flags_decode b] at this
  simpa using this

theorem msgKey_eq_nil (q : Query) : msgKey q = [] ↔ cacheable q = false := by
  unfold msgKey
  cases cacheable q <;> simp

theorem cacheable_of_msgKey_ne_nil {q : Query} (h : msgKey q ≠ []) : cacheable q = true := by
  simpa [msgKey_eq_nil] using h

theorem msgKey_injective (a b : Query) (ha : cacheable a) (hb : cacheable b)
    (h : msgKey a = msgKey b) : SameQuestion a b := by
  simp only [msgKey, ha, hb, if_true, List.cons.injEq] at h
  obtain ⟨h0, h1, h2, h3, h4, -, h⟩ := h
  obtain ⟨f1, f2, f3⟩ := flags_inj a b h0
  exact ⟨h, u16_split _ _ h1 h2, u16_split _ _ h3 h4, f1, f2, f3⟩

/-- **C04 (key).** Two cacheable queries with the same generated key ask the
same question with the same AD/CD/DO flags. -/
theorem key_injective (a b : Query) (ha : cacheable a) (hb : cacheable b)
    (h : Gen.getMsgKey a = Gen.getMsgKey b) : SameQuestion a b := by
  rw [Refine.C04.getMsgKey_eq, Refine.C04.getMsgKey_eq] at h
  exact msgKey_injective a b ha hb h

/-- **C04 (bypass).** The key is empty exactly for the queries that must
bypass the cache (QR set, opcode ≠ QUERY, question count ≠ 1). -/
theorem key_bypass (q : Query) : Gen.getMsgKey q = [] ↔ cacheable q = false := by
  rw [Refine.C04.getMsgKey_eq, msgKey_eq_nil]

def Inv {α} (s : Store α) : Prop :=
  ∀ p ∈ s, p.1 = msgKey p.2.storedBy ∧ cacheable p.2.storedBy = true

theorem inv_nil {α} : Inv ([] : Store α) := fun _ h => nomatch h

theorem inv_put {α} {s : Store α} (h : Inv s) {p : Bytes × Entry α}
    (hp : p.1 = msgKey p.2.storedBy ∧ cacheable p.2.storedBy = true) :
    Inv (p :: s.filter (fun x => x.1 != p.1)) := by
  intro x hx
  rcases List.mem_cons.mp hx with rfl | hx
  · exact hp
  · exact h x (List.mem_filter.mp hx).1

theorem inv_step {α} (s : Store α) (op : Op α) (h : Inv s) : Inv (step s op) := by
  cases op with
  | flush => exact inv_nil
  | store q v =>
    simp only [step]
    split
    · exact h
    · next hk => exact inv_put h (p := (msgKey q, ⟨q, v⟩)) ⟨rfl, cacheable_of_msgKey_ne_nil hk⟩

theorem inv_run_from {α} (ops : List (Op α)) (s : Store α) (h : Inv s) : Inv (ops.foldl step s) :=
  List.foldlRecOn ops step h fun s hs op _ => inv_step s op hs

theorem lookup_inv {α} (s : Store α) (hs : Inv s) (q₂ : Query) (e : Entry α)
    (h : lookup s q₂ = some e) : SameQuestion e.storedBy q₂ := by
  obtain ⟨hk, h⟩ := Option.ite_none_left_eq_some.mp h
  obtain ⟨p, hp, rfl⟩ := Option.map_eq_some_iff.mp h
  obtain ⟨h1, h2⟩ := hs p (List.mem_of_find?_eq_some hp)
  exact msgKey_injective _ _ h2 (cacheable_of_msgKey_ne_nil hk) (by simpa [h1] using List.find?_some hp)

/-- **C04 (hit).** After any sequence of stores and flushes, an entry found
for query `q₂` was stored by a query asking the same question with the same
flags. (Exactness of the real concurrent store is C11.) -/
theorem hit_same_question {α} (ops : List (Op α)) (q₂ : Query) (e : Entry α)
    (h : lookup (ops.foldl step []) q₂ = some e) : SameQuestion e.storedBy q₂ :=
  lookup_inv _ (inv_run_from ops [] inv_nil) q₂ e h

/-! ## Cache lives: dump and load

`Model.C04.Reach loadKey` are the stores reachable when dumps of reachable stores are
loaded (at start-up or through the API) with the key function `loadKey` applied to the
dumped key bytes. Loading re-stores entries: it keeps `Inv` when an entry is written with, and
loaded under, its own key (`inv_loadDump`; read from the source, `dump_load_key_is_dumped_key`), and
does not with a loader that guesses (`guessed_layout_is_wrong`). -/

theorem inv_loadDump {α} (d s : Store α) (hs : Inv s) (hd : Inv d) : Inv (loadDump (fun k => k) s d) :=
  List.foldlRecOn d _ hs fun _ hs p hp => inv_put hs (hd p hp)

theorem inv_reach {α} (s : Store α) (h : Reach (fun k => k) s) : Inv s := by
  induction h with
  | fresh => exact inv_nil
  | op s o _ ih => exact inv_step s o ih
  | load s s₀ d _ _ hsub ihs ih₀ => exact inv_loadDump d s ihs (fun p hp => ih₀ p (hsub p hp))

theorem reload_hit_same_question_id {α} (s : Store α) (h : Reach (fun k => k) s) (q₂ : Query) (e : Entry α)
    (hl : lookup s q₂ = some e) : SameQuestion e.storedBy q₂ :=
  lookup_inv s (inv_reach s h) q₂ e hl

theorem dumpLoadKey_eq_some {writes keeps : Option Bool} {k : Bytes → Bytes} (h : dumpLoadKey writes keeps = some k) :
    k = fun b => b :=
  (Option.some.inj (Option.ite_none_right_eq_some.mp h).2).symm

/-- The source says that `writeDump` records the entry's own key and `readDump` stores
the entry under exactly the dumped key bytes: the load key function read from the
facts exists and is the identity. -/
theorem dump_load_key_is_dumped_key :
    ∃ k, dumpLoadKey Gen.Facts.c04DumpWritesKey Gen.Facts.c04DumpLoadKeepsKey = some k ∧ ∀ b : Bytes, k b = b :=
  ⟨fun k => k, by unfold dumpLoadKey; exact if_pos (by decide), fun _ => rfl⟩

/-- **C04 (reload).** `hit_same_question` across cache lives, for the load key function
as regenerated: whatever was stored, flushed, dumped and loaded, in whatever order
and into whichever instance, an entry found for `q₂` was stored for the same question
with the same flags. -/
theorem reload_hit_same_question {α} (k : Bytes → Bytes)
    (hk : dumpLoadKey Gen.Facts.c04DumpWritesKey Gen.Facts.c04DumpLoadKeepsKey = some k)
    (s : Store α) (h : Reach k s) (q₂ : Query) (e : Entry α)
    (hl : lookup s q₂ = some e) : SameQuestion e.storedBy q₂ := by
  obtain rfl := dumpLoadKey_eq_some hk
  exact reload_hit_same_question_id s h q₂ e hl

def qOddClass : Query := ⟨false, 0, 1, false, false, false, 1, 0x0478, [97, 46]⟩
def qVictim : Query := ⟨false, 0, 1, false, false, false, 1, 1, [0x78, 2, 97, 46]⟩
/-- Why the load key must be the dumped key itself: a loader that guesses the layout
of a key from its bytes re-files entries of well-formed current keys. Witness: the
answer stored for `{a., type A, class 0x0478}` (class high byte = name length + 2) is,
after one dump and load with `upgradeOld`, found for `{x\x02a., type A, class IN}`. -/
theorem guessed_layout_is_wrong :
    ∃ (s : Store Nat) (q : Query) (e : Entry Nat), Reach upgradeOld s ∧ lookup s q = some e ∧
      ¬ SameQuestion e.storedBy q := by
  refine ⟨loadDump upgradeOld [] [(msgKey qOddClass, ⟨qOddClass, 7⟩)], qVictim, ⟨qOddClass, 7⟩, ?_, by decide, ?_⟩
  · exact Reach.load [] (step [] (.store qOddClass 7)) _ Reach.fresh (Reach.op [] _ Reach.fresh) (by decide)
  · intro h
    exact absurd h.1 (by decide)

example : lookup (loadDump (fun k => k) [] [(msgKey qOddClass, (⟨qOddClass, 7⟩ : Entry Nat))]) qVictim = none := by decide
example : lookup (loadDump (fun k => k) [] [(msgKey qOddClass, (⟨qOddClass, 7⟩ : Entry Nat))]) qOddClass = some ⟨qOddClass, 7⟩ := by decide

/-! Concrete cacheable queries: the pairs that collided before the repair of F3 (A / CAA, IN / CH) have different keys. -/
def qA : Query := ⟨false, 0, 1, false, false, false, 1, 1, [3, 119, 119, 119, 0]⟩
def qCAA : Query := { qA with qtype := 257 }
def qCH : Query := { qA with qclass := 3 }
example : cacheable qA = true ∧ cacheable qCAA = true := by decide
example : Gen.getMsgKey qA ≠ Gen.getMsgKey qCAA := by decide
example : Gen.getMsgKey qA ≠ Gen.getMsgKey qCH := by decide
example : lookup ([Op.store qA (7 : Nat)].foldl step []) qA = some ⟨qA, 7⟩ := by decide
example : lookup ([Op.store qA (7 : Nat)].foldl step []) qCAA = none := by decide

/-! ## Chains of plugins with more than one cache plugin

Between two cache plugins of one chain the question may be rewritten, in place
(`redirect`) or on a copy of the context (`prefer_ipv4` / `prefer_ipv6`, `fallback`,
lazy update). `Model.C04.accept` is the trace acceptor the harness replays the
observed store / hit events of such chains on; it is parametric in the key
`Cache.Exec` uses, as a function of the context it is handed. -/

def Stored (keyFn : Ctx → Bytes) (evs : List Ev) (s : List Rec) : Prop :=
  ∀ r ∈ s, ∃ ctx' : Ctx, Ev.store r.cache ctx' r.val ∈ evs ∧ r.key = keyFn ctx'

theorem accept_stored (keyFn : Ctx → Bytes) {done : List Ev} {s : List Rec} {e : Ev} {s' : List Rec}
    (h : Stored keyFn done s) (ha : accept keyFn s e = some s') : Stored keyFn (done ++ [e]) s' := by
  have weaken : Stored keyFn (done ++ [e]) s := fun r hr =>
    let ⟨ctx', h1, h2⟩ := h r hr; ⟨ctx', List.mem_append_left _ h1, h2⟩
  cases e with
  | hit c ctx v =>
    obtain ⟨-, hs⟩ := Option.ite_none_right_eq_some.mp ha
    cases hs
    exact weaken
  | store c ctx v =>
    simp only [accept] at ha
    split at ha <;> cases ha
    · exact weaken
    · exact List.forall_mem_cons.mpr ⟨⟨ctx, by simp, rfl⟩, weaken⟩

theorem acceptAll_eq_run (keyFn : Ctx → Bytes) (s : List Rec) (evs : List Ev) :
    acceptAll keyFn s evs = Lts.run (accept keyFn) s evs := by
  fun_induction acceptAll keyFn s evs <;> simp only [Lts.run, *]

theorem acceptAll_stored {keyFn : Ctx → Bytes} {evs : List Ev} {s : List Rec}
    (h : acceptAll keyFn [] evs = some s) : Stored keyFn evs s :=
  Lts.run_trace_inv (accept_stored keyFn) [] (by intro r hr; cases hr) (acceptAll_eq_run .. ▸ h)

theorem hit_same_key {keyFn : Ctx → Bytes} {evs : List Ev} {s s' : List Rec} {c : Nat} {ctx : Ctx} {v : Nat}
    (h₁ : acceptAll keyFn [] evs = some s) (h₂ : accept keyFn s (.hit c ctx v) = some s') :
    ∃ ctx' : Ctx, Ev.store c ctx' v ∈ evs ∧ keyFn ctx' = keyFn ctx ∧ keyFn ctx ≠ [] := by
  obtain ⟨hcond, -⟩ := Option.ite_none_right_eq_some.mp h₂
  simp only [Bool.and_eq_true, bne_iff_ne, ne_eq, List.any_eq_true, beq_iff_eq] at hcond
  obtain ⟨hne, r, hr, ⟨rfl, hkey⟩, rfl⟩ := hcond
  obtain ⟨ctx', hmem, hrk⟩ := acceptAll_stored h₁ r hr
  exact ⟨ctx', hmem, hrk.symm.trans hkey, hne⟩

/-- **C04 (chains).** Whatever plugins rewrite the question between the cache
plugins of a chain, and whatever the context carries along: if `Cache.Exec` keys
by the question it is handed, a hit of a cache instance serves an answer that this
instance stored for the same question with the same flags. Over all traces. -/
theorem chain_hit_same_question (keyFn : Ctx → Bytes) (hk : ∀ ctx, keyFn ctx = msgKey ctx.q)
    (evs : List Ev) (s s' : List Rec) (c : Nat) (ctx : Ctx) (v : Nat)
    (h₁ : acceptAll keyFn [] evs = some s) (h₂ : accept keyFn s (.hit c ctx v) = some s') :
    ∃ ctx' : Ctx, Ev.store c ctx' v ∈ evs ∧ SameQuestion ctx'.q ctx.q := by
  obtain ⟨ctx', hmem, hkey, hne⟩ := hit_same_key h₁ h₂
  rw [hk, hk] at hkey
  rw [hk] at hne
  exact ⟨ctx', hmem, msgKey_injective _ _ (cacheable_of_msgKey_ne_nil (hkey ▸ hne))
    (cacheable_of_msgKey_ne_nil hne) hkey⟩

theorem execKey_eq_some {a b : Option Bool} {k : Ctx → Bytes} (h : execKey a b = some k) : k = fun ctx => msgKey ctx.q :=
  (Option.some.inj (Option.ite_none_right_eq_some.mp h).2).symm

/-- The source says that `Cache.Exec` computes its key from the question of the
context it is handed (`q := qCtx.Q(); msgKey := getMsgKey(q)`) and passes this one
key to every lookup and store; the key function read from the facts is the
regenerated `getMsgKey` of that question. -/
theorem exec_key_of_current_query :
    ∃ k, execKey Gen.Facts.c04ExecKeyOfCurrentQuery Gen.Facts.c04ExecSingleKey = some k ∧
      ∀ ctx : Ctx, k ctx = Gen.getMsgKey ctx.q :=
  ⟨fun ctx => msgKey ctx.q,
    by unfold execKey; exact if_pos (by decide),
    fun ctx => (Refine.C04.getMsgKey_eq ctx.q).symm⟩

/-- `chain_hit_same_question` for the key function as regenerated. -/
theorem chain_hit_same_question_gen (k : Ctx → Bytes)
    (hk : execKey Gen.Facts.c04ExecKeyOfCurrentQuery Gen.Facts.c04ExecSingleKey = some k)
    (evs : List Ev) (s s' : List Rec) (c : Nat) (ctx : Ctx) (v : Nat)
    (h₁ : acceptAll k [] evs = some s) (h₂ : accept k s (.hit c ctx v) = some s') :
    ∃ ctx' : Ctx, Ev.store c ctx' v ∈ evs ∧ SameQuestion ctx'.q ctx.q := by
  obtain rfl := execKey_eq_some hk
  exact chain_hit_same_question _ (fun _ => rfl) evs s s' c ctx v h₁ h₂

def carriedKey (ctx : Ctx) : Bytes := ctx.carried.headD (msgKey ctx.q)
def qAAAA : Query := { qA with qtype := 28 }
/-- Why the key must be a function of the current question only: a key that is
remembered in the context (and so survives `Copy` and a rewritten question) lets
a cache behind a question-rewriting plugin serve the answer of one question to
another. Witness: the A sub-query of an AAAA query stores under the carried AAAA
key; the AAAA query is then served the A answer. -/
theorem carried_key_is_wrong :
    ∃ (evs : List Ev) (s : List Rec) (c : Nat) (ctx : Ctx) (v : Nat),
      acceptAll carriedKey [] evs = some s ∧ accept carriedKey s (.hit c ctx v) = some s ∧
      ∀ ctx' : Ctx, Ev.store c ctx' v ∈ evs → ¬ SameQuestion ctx'.q ctx.q := by
  refine ⟨[.store 1 ⟨qA, [msgKey qAAAA]⟩ 7], [⟨1, msgKey qAAAA, qA, 7⟩], 1, ⟨qAAAA, [msgKey qAAAA]⟩, 7,
    by decide, by decide, ?_⟩
  intro ctx' hmem h
  simp only [List.mem_singleton, Ev.store.injEq, true_and] at hmem
  obtain ⟨rfl, _⟩ := hmem
  exact absurd h.2.1 (by decide)

example : acceptAll (fun ctx => msgKey ctx.q) [] [.store 0 ⟨qAAAA, []⟩ 1, .store 1 ⟨qA, []⟩ 2, .hit 1 ⟨qA, []⟩ 2,
    .hit 0 ⟨qAAAA, []⟩ 1] ≠ none := by decide
example : firstRejected (fun ctx => msgKey ctx.q) [] [.store 1 ⟨qA, []⟩ 2, .hit 1 ⟨qAAAA, []⟩ 2] 0 = some 1 := by decide

theorem execStores_spec {fact : Option Bool} (h : fact = some true) :
    ∃ f, execStores fact = some f ∧
      ∀ (before after : Option Nat) (v : Nat), f before after = some v → after = some v ∧ before ≠ some v := by
  refine ⟨_, if_pos h, fun before after v hf => ?_⟩
  obtain ⟨hab, hf⟩ := Option.ite_none_left_eq_some.mp hf
  exact ⟨hf, fun hb => hab (hf.trans hb.symm)⟩

/-- **Which responses a cache plugin stores.** The source says that `Cache.Exec`
reads the response of the context directly in front of `next.ExecNext` and stores,
afterwards, only a response that is not that one. So a `store` event stands for an
answer the rest of the sequence produced for the question this cache was handed:
a response that was in the context already (the hit of a cache in front of a
question-rewriting plugin, travelling on because no `[has_resp] accept` follows)
is never stored under this cache's key. -/
theorem exec_stores_only_produced :
    ∃ f, execStores Gen.Facts.c04ExecStoresOnlyNewResponse = some f ∧
      ∀ (before after : Option Nat) (v : Nat), f before after = some v → after = some v ∧ before ≠ some v :=
  execStores_spec (by decide)

/-- The background refresh of a lazy cache (`doLazyUpdate`) walks the rest of the
sequence on a copy of the context, which carries whatever response the context
carried when the stale entry was found (the hit of an earlier cache). The source
says that the refresh follows the same rule as `Exec`, so what it stores under the
stale entry's key was produced by the rest of the sequence for that question. -/
theorem lazy_refresh_stores_only_produced :
    ∃ f, execStores Gen.Facts.c04LazyStoresOnlyNewResponse = some f ∧
      ∀ (before after : Option Nat) (v : Nat), f before after = some v → after = some v ∧ before ≠ some v :=
  execStores_spec (by decide)

/-- Why comparing with the own hit only is not enough: a cache that misses while a
response is already in the context stores that response. -/
theorem own_hit_only_stores_travelling_response :
    ∃ (ownHit before after : Option Nat) (v : Nat),
      execStoresUnlessOwnHit ownHit before after = some v ∧ before = some v :=
  ⟨none, some 1, some 1, 1, by decide, rfl⟩

theorem facts_guard : Gen.Facts.c04DumpWritesKey = some true ∧ Gen.Facts.c04DumpLoadKeepsKey = some true ∧
    Gen.Facts.c04ExecKeyOfCurrentQuery = some true ∧ Gen.Facts.c04ExecSingleKey = some true ∧
    Gen.Facts.c04ExecStoresOnlyNewResponse = some true ∧ Gen.Facts.c04LazyStoresOnlyNewResponse = some true := by decide

end Props.C04

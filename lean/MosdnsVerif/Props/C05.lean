import MosdnsVerif.Model.C05
import MosdnsVerif.Gen.Facts

/-!
# C05 — cached answers age correctly and expire on time

What one query gets is read off `serve` at two clock readings (`cache.Get` at `t1`, `getRespFromCache` at `t2`)
against an `Item` whose three times `store` fixed once (`serve_eq_miss`, `serve_eq_fresh`: when it is a miss, when a
fresh hit). The runs over several queries (`lazyRun` with failing refreshes, `aliasRun`) are shown equal to `hitsOnly`,
the same queries on an entry nobody touches, and `mem_hitsOnly` brings each of their answers back to one `serve`.
-/
namespace Props.C05
open Model.C05

theorem admission_eq_some {lazyTtl : Int} {m : Msg} {a b : Nat} :
    admission lazyTtl m = some (a, b) ↔
      m.tc = false ∧ 0 < (lifetimes lazyTtl m).1 ∧ 0 < (lifetimes lazyTtl m).2 ∧
      (lifetimes lazyTtl m).1.toNat = a ∧ (lifetimes lazyTtl m).2.toNat = b := by
  unfold admission
  cases m.tc <;> simp [and_assoc]

theorem admission_eq_none {lazyTtl : Int} {m : Msg} (h : m.tc = false → ¬ 0 < (lifetimes lazyTtl m).1) :
    admission lazyTtl m = none :=
  Option.eq_none_iff_forall_ne_some.mpr fun (_, _) hs =>
    let ⟨htc, ha, _⟩ := admission_eq_some.mp hs
    h htc ha

/-- **Never stored**: truncated replies, rcodes other than NOERROR / NXDOMAIN /
SERVFAIL, and NOERROR replies whose smallest TTL is 0 (or that have no record). -/
theorem never_stored (lazyTtl : Int) (m : Msg) :
    (m.tc = true → admission lazyTtl m = none) ∧
    (m.rcode ≠ 0 → m.rcode ≠ 2 → m.rcode ≠ 3 → admission lazyTtl m = none) ∧
    (m.rcode = 0 → minTTL m = 0 → admission lazyTtl m = none) := by
  refine ⟨fun h => ?_, fun h0 h2 h3 => ?_, fun h0 hz => ?_⟩ <;> refine admission_eq_none fun htc => ?_
  · simp [h] at htc
  · simp [lifetimes, h0, h2, h3]
  · -- the first lifetime is `min 0 300` for an empty answer and `0` otherwise
    simp [lifetimes, h0, hz, apply_ite Prod.fst, Int.min_def]

/-- **Lifetimes**: NXDOMAIN 30 s, SERVFAIL 5 s, empty NOERROR
min(300 s, smallest TTL) - all three regardless of lazy caching - and NOERROR
with answers: the smallest TTL (kept in the store for `lazy_cache_ttl` when
lazy caching is on). -/
theorem lifetime_bound (lazyTtl : Int) (m : Msg) (a b : Nat) (h : admission lazyTtl m = some (a, b)) :
    m.tc = false ∧
    (m.rcode = 3 → a = 30 ∧ b = 30) ∧
    (m.rcode = 2 → a = 5 ∧ b = 5) ∧
    (m.rcode = 0 → m.answer = [] → a = min (minTTL m).toNat 300 ∧ b = a) ∧
    (m.rcode = 0 → m.answer ≠ [] → a = (minTTL m).toNat ∧ (b = if lazyTtl > 0 then lazyTtl.toNat else a)) := by
  obtain ⟨htc, -, -, rfl, rfl⟩ := admission_eq_some.mp h
  refine ⟨htc, ?_, ?_, ?_, ?_⟩
  · intro h3; simp [lifetimes, h3]
  · intro h2; simp [lifetimes, h2]
  · intro h0 he; simp [lifetimes, h0, he]; omega
  · intro h0 hne; simp [lifetimes, h0, hne, apply_ite Int.toNat]

theorem store_eq_some {lazyTtl : Int} {m : Msg} {now : Nat} {it : Item} :
    store lazyTtl m now = some it ↔
      ∃ a b, admission lazyTtl m = some (a, b) ∧ ⟨m.noOpt, now, now + a * sec, now + b * sec⟩ = it := by
  simp only [store, Option.map_eq_some_iff, Prod.exists]

theorem minStep_eq_min : (fun a b : UInt32 => if b < a then b else a) = min := by
  funext a b
  rw [Std.min_eq_if]
  by_cases h : a ≤ b <;> simp [h, UInt32.not_lt.mpr, UInt32.not_le.mp]

theorem minTTL_le (m : Msg) (r : RR) (hr : r ∈ m.rrs) (ho : r.isOpt = false) : minTTL m ≤ r.ttl := by
  have hmem : r.ttl ∈ (m.rrs.filter (fun r => !r.isOpt)).map (·.ttl) :=
    List.mem_map.mpr ⟨r, List.mem_filter.mpr ⟨hr, by simp [ho]⟩, rfl⟩
  unfold minTTL
  rw [minStep_eq_min]
  split
  · next hl => rw [hl] at hmem; cases hmem
  · next t ts hl =>
    rw [hl] at hmem
    -- `ts.foldl min t` is `(t :: ts).min?` (`List.min?_cons'`), and a minimum is below every member
    exact (List.min?_eq_some_iff.mp List.min?_cons').2 _ hmem

/-- Per record: OPT untouched; otherwise lowered by `delta` when larger,
else 1; always between 1 and max(1, original). -/
theorem subRR_spec (delta : UInt32) (r : RR) :
    (r.isOpt = true → subRR delta r = r) ∧
    (r.isOpt = false →
      (subRR delta r).isOpt = false ∧
      (r.ttl > delta → (subRR delta r).ttl = r.ttl - delta) ∧
      (¬ r.ttl > delta → (subRR delta r).ttl = 1) ∧
      1 ≤ (subRR delta r).ttl ∧
      ((subRR delta r).ttl ≤ r.ttl ∨ (subRR delta r).ttl = 1)) := by
  refine ⟨fun h => by simp [subRR, h], fun h => ?_⟩
  by_cases hd : r.ttl > delta
  · have hsub := UInt32.toNat_sub_of_le _ _ (UInt32.le_of_lt hd)
    have := UInt32.lt_iff_toNat_lt.mp hd
    have : 1 ≤ (r.ttl - delta).toNat ∧ (r.ttl - delta).toNat ≤ r.ttl.toNat := by omega
    simp [subRR, h, hd, UInt32.le_iff_toNat_le, this]
  · simp [subRR, h, hd]

theorem serve_eq_miss {lazy : Bool} {st : UInt32} {it : Item} {t1 t2 : Nat} :
    serve lazy st it t1 t2 = .miss ↔ it.cacheExp < t1 ∨ it.msgExp ≤ t2 ∧ lazy = false := by
  unfold serve
  by_cases h1 : it.cacheExp < t1
  · simp [h1]
  · by_cases h2 : it.msgExp ≤ t2
    · cases lazy <;> simp [h1, h2, Nat.not_lt.mpr h2]
    · simp [h1, h2, Nat.lt_of_not_le h2]

theorem not_served_after_cacheExp {lazy : Bool} {st : UInt32} {it : Item} {t1 t2 : Nat} (h : it.cacheExp < t1) :
    serve lazy st it t1 t2 = .miss :=
  serve_eq_miss.mpr (.inl h)

theorem serve_miss_of_le {lazy : Bool} {st : UInt32} {it d : Item} {t1 t2 : Nat}
    (hm : d.msgExp ≤ it.msgExp) (hc : d.cacheExp ≤ it.cacheExp)
    (h : serve lazy st it t1 t2 = .miss) : serve lazy st d t1 t2 = .miss :=
  serve_eq_miss.mpr ((serve_eq_miss.mp h).imp (Nat.lt_of_le_of_lt hc) (.imp_left (Nat.le_trans hm)))

theorem serve_eq_fresh {lazy : Bool} {st : UInt32} {it : Item} {t1 t2 : Nat} {m : Msg} :
    serve lazy st it t1 t2 = .fresh m ↔
      ¬ it.cacheExp < t1 ∧ t2 < it.msgExp ∧ m = it.msg.mapRR (subRR (UInt32.ofNat ((t2 - it.stored) / sec))) := by
  unfold serve
  by_cases h1 : it.cacheExp < t1
  · simp [h1]
  · by_cases h2 : t2 < it.msgExp
    · simp [h1, h2, eq_comm]
    · cases lazy <;> simp [h1, h2]

/-- **Fresh hit.** While the entry is in the store (`t1` not after its cache
expiry) and `t2` is before the message expiry, the answer is served with every
non-OPT TTL lowered by the whole seconds elapsed since it was stored. -/
theorem serve_fresh (lazy : Bool) (st : UInt32) (it : Item) (t1 t2 : Nat)
    (h1 : ¬ it.cacheExp < t1) (h2 : t2 < it.msgExp) :
    serve lazy st it t1 t2 = .fresh (it.msg.mapRR (subRR (UInt32.ofNat ((t2 - it.stored) / sec)))) :=
  serve_eq_fresh.mpr ⟨h1, h2, rfl⟩

/-- **Expiry without lazy caching.** Once the message expiry is reached the
entry is not served any more. -/
theorem not_served_after_expiry (st : UInt32) (it : Item) (t1 t2 : Nat) (h : it.msgExp ≤ t2) :
    serve false st it t1 t2 = .miss :=
  serve_eq_miss.mpr (.inr ⟨h, rfl⟩)

/-- ... and for an answer stored at `now`, the message expiry is `now` plus
its smallest TTL (NOERROR with answers), so it is not served once the smallest
TTL has run out. -/
theorem expires_with_smallest_ttl (m : Msg) (now : Nat) (it : Item) (st : UInt32) (t1 t2 : Nat)
    (hs : store 0 m now = some it) (h0 : m.rcode = 0) (hne : m.answer ≠ [])
    (ht : now + (minTTL m).toNat * sec ≤ t2) : serve false st it t1 t2 = .miss := by
  obtain ⟨a, b, ha, rfl⟩ := store_eq_some.mp hs
  obtain ⟨-, -, -, -, hanswers⟩ := lifetime_bound 0 m a b ha
  obtain ⟨rfl, -⟩ := hanswers h0 hne
  exact not_served_after_expiry _ _ _ _ ht

/-- **Lazy caching.** A stale entry that is still in the store is served
with every non-OPT TTL set to the stale TTL `st` (5 in the source: `c05StaleTtl`
in `facts_guard`), flagged as a lazy hit. -/
theorem lazy_stale (st : UInt32) (it : Item) (t1 t2 : Nat) (h1 : ¬ it.cacheExp < t1) (h2 : it.msgExp ≤ t2) :
    serve true st it t1 t2 = .stale (it.msg.mapRR (setRR st)) := by
  simp [serve, h1, Nat.not_lt.mpr h2]

theorem setRR_spec (t : UInt32) (r : RR) :
    (r.isOpt = true → setRR t r = r) ∧ (r.isOpt = false → (setRR t r).ttl = t ∧ (setRR t r).isOpt = false) := by
  constructor <;> intro h <;> simp [setRR, h]

theorem rrs_noOpt (m : Msg) : m.noOpt.rrs = m.rrs.filter (fun r => !r.isOpt) := by
  simp [Msg.rrs, Msg.noOpt]

theorem stored_no_opt (lazyTtl : Int) (m : Msg) (now : Nat) (it : Item) (h : store lazyTtl m now = some it) :
    ∀ r ∈ it.msg.rrs, r.isOpt = false := by
  obtain ⟨a, b, -, rfl⟩ := store_eq_some.mp h
  intro r hr
  rw [rrs_noOpt] at hr
  simpa using (List.mem_filter.mp hr).2

def SFInv (s : SF) : Prop := s.running.Nodup ∧ ∀ k ∈ s.running, k ∈ s.inMap

theorem sf_step_inv (s : SF) (op : SFOp) (h : SFInv s) : SFInv (sfStep false s op) := by
  obtain ⟨hn, hm⟩ := h
  cases op with
  | staleHit k =>
    simp only [sfStep, Bool.false_eq_true, if_false]
    split
    · exact ⟨hn, hm⟩
    · next hk =>
      exact ⟨List.nodup_cons.mpr ⟨fun hr => hk (hm k hr), hn⟩,
        List.forall_mem_cons.mpr ⟨List.mem_cons_self, fun k' hk' => List.mem_cons_of_mem _ (hm k' hk')⟩⟩
  | finish k =>
    simp only [sfStep]
    split
    · refine ⟨hn.erase k, fun k' hk' => ?_⟩
      obtain ⟨hne, hmem⟩ := hn.mem_erase_iff.mp hk'
      exact List.mem_filter.mpr ⟨hm k' hmem, by simpa using hne⟩
    · exact ⟨hn, hm⟩

/-- **One refresh per question.** After any history of stale hits and refresh
completions (any number of concurrent queries, any interleaving), no question
has two background refreshes in flight. -/
theorem one_refresh (ops : List SFOp) : (ops.foldl (sfStep false) ⟨[], []⟩).running.Nodup :=
  (List.foldlRecOn ops (sfStep false) (motive := SFInv) ⟨List.nodup_nil, fun _ h => (List.not_mem_nil h).elim⟩
    fun s hs op _ => sf_step_inv s op hs).1

/-- The guard matters: releasing the key when the refresh *starts* allows two. -/
example : ¬ ([SFOp.staleHit 1, SFOp.staleHit 1].foldl (sfStep true) ⟨[], []⟩).running.Nodup := by decide

/-- Regenerated from `Cache.Exec` / `doLazyUpdate`: the context copy handed to
the background refresh is taken before the stale answer is put into the
client's context. -/
def copyBeforeSet : Bool := Gen.Facts.c05LazyCopyTakenBeforeCachedResp == some true

theorem refresh_context_has_no_response : copyBeforeSet = true := by decide

/-- What a refresh stores depends only on what the rest of the chain does to a
context *without* a response - never on the stale answer. -/
theorem refresh_ignores_stale (lazyTtl : Int) (st : UInt32) (it : Item) (chain : Chain) (now : Nat) :
    refresh copyBeforeSet lazyTtl st it chain now =
      match chain none with
      | none => it
      | some m => (store lazyTtl m now).getD it := by
  rw [refresh_context_has_no_response]; rfl

/-- **A refresh that yields no answer** (upstream error, no response) **leaves
the entry exactly as it was**: stored time, message expiry, cache expiry, data. -/
theorem failed_refresh_keeps_entry (lazyTtl : Int) (st : UInt32) (it : Item) (chain : Chain) (now : Nat)
    (h : chain none = none) : refresh copyBeforeSet lazyTtl st it chain now = it := by
  rw [refresh_ignores_stale, h]

/-- ... and so does one whose answer must never be stored (TC, other rcodes, zero TTL). -/
theorem unstorable_refresh_keeps_entry (lazyTtl : Int) (st : UInt32) (it : Item) (chain : Chain) (now : Nat) (m : Msg)
    (h : chain none = some m) (ha : admission lazyTtl m = none) : refresh copyBeforeSet lazyTtl st it chain now = it := by
  rw [refresh_ignores_stale, h]
  simp [store, ha]

/-- **The refresh reaches an upstream that sits behind a "skip when a response
is present" guard** and stores its answer. -/
theorem guarded_refresh_updates (lazyTtl : Int) (st : UInt32) (it it' : Item) (m : Msg) (now : Nat)
    (h : store lazyTtl m now = some it') : refresh copyBeforeSet lazyTtl st it (guarded m) now = it' := by
  rw [refresh_ignores_stale]
  simp [guarded, h]

theorem mem_hitsOnly {lazy : Bool} {st : UInt32} {it : Item} {evs : List Ev} {s : Served}
    (h : s ∈ hitsOnly lazy st it evs) : ∃ t, Ev.hit t ∈ evs ∧ s = serve lazy st it t t := by
  induction evs with
  | nil => cases h
  | cons e es ih =>
    have tail (h : s ∈ hitsOnly lazy st it es) : ∃ t, Ev.hit t ∈ e :: es ∧ s = serve lazy st it t t :=
      (ih h).imp fun t ht => ⟨List.mem_cons_of_mem _ ht.1, ht.2⟩
    cases e with
    | rewrite f => exact tail h
    | hit t =>
      have : s = serve lazy st it t t ∨ s ∈ hitsOnly lazy st it es := by
        cases hsv : serve lazy st it t t <;> simp only [hitsOnly, hsv] at h
        · exact .inl (List.mem_singleton.mp h)    -- a miss ends the run
        · exact List.mem_cons.mp h
        · exact List.mem_cons.mp h
      exact this.elim (fun e => ⟨t, List.mem_cons_self, e⟩) tail

theorem lazyRun_failed (lazyTtl : Int) (st : UInt32) (chain : Chain) (h : chain none = none) (it : Item) (ts : List Nat) :
    lazyRun copyBeforeSet lazyTtl st chain it ts = hitsOnly true st it (ts.map .hit) := by
  induction ts with
  | nil => rfl
  | cons t ts ih => simp only [lazyRun, List.map_cons, hitsOnly, failed_refresh_keeps_entry _ _ _ _ _ h, ih]

/-- **Stale stays stale.** Whatever number of queries hit a stale entry, at
whatever times, while every refresh comes back empty-handed: each of them gets
the stale answer with the stale TTL `st` (5 in the source: `c05StaleTtl` in
`facts_guard`) as a lazy hit - which starts a refresh again - or, once the
entry's cache lifetime is over, a miss. None is a fresh hit. -/
theorem stale_until_refreshed (lazyTtl : Int) (st : UInt32) (chain : Chain) (h : chain none = none)
    (it : Item) (ts : List Nat) (hs : ∀ t ∈ ts, it.msgExp ≤ t) :
    ∀ s ∈ lazyRun copyBeforeSet lazyTtl st chain it ts, s = .miss ∨ s = .stale (it.msg.mapRR (setRR st)) := by
  intro s hm
  rw [lazyRun_failed lazyTtl st chain h] at hm
  obtain ⟨t, ht, rfl⟩ := mem_hitsOnly hm
  have hle := hs t (by simpa using ht)
  by_cases hg : it.cacheExp < t
  · exact .inl (not_served_after_cacheExp hg)
  · exact .inr (lazy_stale st it t t hg hle)

/-- ... and it is gone for good once its cache lifetime is over: no failed refresh extends it. -/
theorem stale_entry_leaves_on_time (lazyTtl : Int) (st : UInt32) (chain : Chain) (h : chain none = none)
    (it : Item) (now t1 t2 : Nat) (hg : it.cacheExp < t1) :
    serve true st (refresh copyBeforeSet lazyTtl st it chain now) t1 t2 = .miss := by
  rw [failed_refresh_keeps_entry lazyTtl st it chain now h]
  exact not_served_after_cacheExp hg

/-- Regenerated from `copyNoOpt` / `saveRespToCache`: the stored message holds `dns.Copy` of every record. -/
def storeCopies : Bool := Gen.Facts.c05StoredRecordsAreCopies == some true
/-- Regenerated from `getRespFromCache`: a hit works on, and hands out, `v.resp.Copy()`. -/
def hitCopies : Bool := Gen.Facts.c05HitHandsOutCopy == some true

theorem records_are_private : storeCopies = true ∧ hitCopies = true := by decide

theorem unaliased_run (lazy : Bool) (st : UInt32) (evs : List Ev) (it : Item) :
    aliasRun true true lazy st false it evs = hitsOnly lazy st it evs := by
  induction evs with
  | nil => rfl
  | cons e es ih =>
    cases e with
    | rewrite f => exact ih   -- nothing is aliased, so `liveRewrite false f it` is `it`
    | hit t => simp only [aliasRun, hitsOnly, Bool.not_true, ↓reduceIte, ih]

/-- **TTL rewrites applied to a reply after the cache plugin returned never reach the entry.** Whatever the
holders of the live replies write into their records, in whatever order with the queries: every query is
answered exactly as if nobody had touched anything - from the TTLs the answer had when it was stored. -/
theorem rewrites_never_reach_the_entry (lazy : Bool) (st : UInt32) (it : Item) (evs : List Ev) :
    aliasRun storeCopies hitCopies lazy st (!storeCopies) it evs = hitsOnly lazy st it evs := by
  rw [records_are_private.1, records_are_private.2]
  exact unaliased_run lazy st evs it

/-- **A fresh hit after any post-processing of earlier replies** carries the TTLs the answer was stored with
(for an entry made by `store`: the upstream's, OPT dropped), each lowered by the whole seconds since then. -/
theorem fresh_hit_after_rewrites (lazy : Bool) (st : UInt32) (it : Item) (evs : List Ev) (m : Msg)
    (h : .fresh m ∈ aliasRun storeCopies hitCopies lazy st (!storeCopies) it evs) :
    ∃ t, Ev.hit t ∈ evs ∧ t < it.msgExp ∧ m = it.msg.mapRR (subRR (UInt32.ofNat ((t - it.stored) / sec))) := by
  rw [rewrites_never_reach_the_entry] at h
  obtain ⟨t, ht, e⟩ := mem_hitsOnly h
  exact ⟨t, ht, (serve_eq_fresh.mp e.symm).2⟩

/-! ### Dump and reload

An entry that came in through a dump (`dump_file` + restart, `/load_dump`) is subject to the same clauses:
the lifetime of an answer is fixed when it is stored, whatever the configuration of the instance that loads
it. The model is parametric in the regenerated fact that `readDump` stores the dumped cache expiry. -/

def keepsTimes : Bool := Gen.Facts.c05ReadDumpKeepsTimes == some true

theorem reload_keeps_dumped_times : keepsTimes = true := by decide

/-- NXDOMAIN, SERVFAIL and empty NOERROR answers: store expiry = message expiry = the fixed lifetime,
with and without lazy caching. -/
theorem negative_answer_expiries (lazyTtl : Int) (m : Msg) (now : Nat) (it : Item)
    (h : store lazyTtl m now = some it) (hneg : m.rcode = 3 ∨ m.rcode = 2 ∨ (m.rcode = 0 ∧ m.answer = [])) :
    it.cacheExp = it.msgExp ∧
    (m.rcode = 3 → it.msgExp = now + 30 * sec) ∧ (m.rcode = 2 → it.msgExp = now + 5 * sec) ∧
    (m.rcode = 0 → it.msgExp = now + min (minTTL m).toNat 300 * sec) := by
  obtain ⟨a, b, ha, rfl⟩ := store_eq_some.mp h
  obtain ⟨-, h3, h2, h0, -⟩ := lifetime_bound lazyTtl m a b ha
  rcases hneg with hr | hr | ⟨hr, he⟩
  · obtain ⟨rfl, rfl⟩ := h3 hr; simp [hr]
  · obtain ⟨rfl, rfl⟩ := h2 hr; simp [hr]
  · obtain ⟨rfl, rfl⟩ := h0 hr he; simp [hr]

/-- With the code as written a loaded entry carries the message and - to the second, never later - the three
times of the entry that was dumped. -/
theorem loaded_entry_times (readerLazy : Int) (it d : Item) (tl : Nat)
    (h : loadEntry true readerLazy (dumpEntry it) tl = some d) :
    d.msg = it.msg ∧ d.stored ≤ it.stored ∧ d.msgExp ≤ it.msgExp ∧ d.cacheExp ≤ it.cacheExp := by
  simp only [loadEntry, dumpEntry, if_true] at h
  split at h
  · cases h    -- `cache.Store` refused it
  · cases h
    exact ⟨rfl, Nat.div_mul_le_self _ _, Nat.div_mul_le_self _ _, Nat.div_mul_le_self _ _⟩

/-- **A reload never brings an answer back.** Whenever the entry as it was stored would not be served at `t` by the
loading instance, neither is the entry that went through a dump and a reload - at whatever time it was loaded. -/
theorem reload_serves_no_more {writerLazy readerLazy : Int} {st : UInt32} {m : Msg} {t0 tl t : Nat} {it : Item}
    (hs : store writerLazy m t0 = some it) (hm : serve (decide (readerLazy > 0)) st it t t = .miss) :
    reloadRun keepsTimes writerLazy readerLazy st m t0 tl t = some .miss := by
  simp only [reloadRun, hs, Option.map_some, reload_keeps_dumped_times]
  split
  · rfl
  · next d hl =>
    obtain ⟨-, -, h1, h2⟩ := loaded_entry_times readerLazy it d tl hl
    exact congrArg some (serve_miss_of_le h1 h2 hm)

/-- **A reloaded negative or empty answer leaves on time**: stored by an instance with any `lazy_cache_ttl`,
dumped, loaded at any time by an instance with any `lazy_cache_ttl`: once its fixed lifetime
(`negative_answer_expiries`: 30 s, 5 s, min(300 s, smallest TTL)) has run out it is not served, neither fresh nor stale. -/
theorem reloaded_negative_answer_leaves_on_time (writerLazy readerLazy : Int) (st : UInt32) (m : Msg) (t0 tl t : Nat) (it : Item)
    (hs : store writerLazy m t0 = some it) (hneg : m.rcode = 3 ∨ m.rcode = 2 ∨ (m.rcode = 0 ∧ m.answer = []))
    (ht : it.msgExp < t) :
    reloadRun keepsTimes writerLazy readerLazy st m t0 tl t = some .miss :=
  reload_serves_no_more hs
    (not_served_after_cacheExp ((negative_answer_expiries writerLazy m t0 it hs hneg).1 ▸ ht))

/-- Without lazy caching in the loading instance no reloaded answer is served once its smallest TTL has run out. -/
theorem reloaded_answer_not_served_after_expiry (writerLazy readerLazy : Int) (st : UInt32) (m : Msg) (t0 tl t : Nat) (it : Item)
    (hs : store writerLazy m t0 = some it) (hl : ¬ readerLazy > 0) (ht : it.msgExp ≤ t) :
    reloadRun keepsTimes writerLazy readerLazy st m t0 tl t = some .miss :=
  reload_serves_no_more hs (by rw [decide_eq_false hl]; exact not_served_after_expiry st it t t ht)

theorem facts_guard :
    Gen.Facts.c05ReadDumpKeepsTimes = some true ∧
    Gen.Facts.c05NxdomainTtl = some 30 ∧ Gen.Facts.c05ServfailTtl = some 5 ∧
    Gen.Facts.c05EmptyAnswerMaxTtl = some 300 ∧ Gen.Facts.c05StaleTtl = some 5 ∧
    Gen.Facts.c05RcodeCases = some true ∧ Gen.Facts.c05SkipIfNonPositive = some true ∧
    Gen.Facts.c05TcNotStored = some true ∧ Gen.Facts.c05FreshTest = some true ∧
    Gen.Facts.c05CacheGetHidesExpired = some true ∧ Gen.Facts.c05SubtractCmp = Base.Cmp.gt ∧
    Gen.Facts.c05TtlHelpersSkipOpt = some true ∧ Gen.Facts.c05ForgetDeferred = some true ∧
    Gen.Facts.c05EmptyAnswerPinsCacheTtl = some true ∧ Gen.Facts.c05TtlHelpersVisitEveryRecordOnce = some true ∧
    Gen.Facts.c05LazyCopyTakenBeforeCachedResp = some true ∧ Gen.Facts.c05RefreshStoresContextResp = some true ∧
    Gen.Facts.c05StoredRecordsAreCopies = some true ∧ Gen.Facts.c05HitHandsOutCopy = some true := by decide

def a300 : RR := ⟨false, 300⟩
def a60 : RR := ⟨false, 60⟩
def opt : RR := ⟨true, 0x8000⟩
def ok : Msg := ⟨0, false, [a300, a60], [], [opt]⟩
example : admission 0 ok = some (60, 60) ∧ admission 86400 ok = some (60, 86400) := by decide
example : admission 86400 ⟨0, false, [], [a300], []⟩ = some (300, 300) := by decide   -- empty answer: not on the lazy path
example : admission 0 ⟨3, false, [], [⟨false, 7⟩], []⟩ = some (30, 30) := by decide
example : admission 0 ⟨0, false, [⟨false, 0⟩], [], []⟩ = none ∧ admission 0 ⟨5, false, [a60], [], []⟩ = none := by decide
example : (store 0 ok 1000).map (fun it => serve false 5 it (1000 + 10 * sec) (1000 + 10 * sec + 999999999)) =
    some (.fresh ⟨0, false, [⟨false, 290⟩, ⟨false, 50⟩], [], []⟩) := by decide
example : (store 0 ok 1000).map (fun it => serve false 5 it (1000 + 60 * sec) (1000 + 60 * sec)) = some .miss := by decide
example : (store 86400 ok 1000).map (fun it => serve true 5 it (1000 + 60 * sec) (1000 + 60 * sec)) =
    some (.stale ⟨0, false, [⟨false, 5⟩, ⟨false, 5⟩], [], []⟩) := by decide

def T : Nat := 1000 * sec
/-- a stale entry (stored 100 s ago, TTL 60, kept for a day), asked at `T`, `T + 1.5 s`, `T + 2.5 s` -/
def old : Item := ⟨⟨0, false, [a60], [], []⟩, T - 100 * sec, T - 40 * sec, T + 86300 * sec⟩
def fresh300 : Msg := ⟨0, false, [a300], [], []⟩
example : lazyRun true 86400 5 id old [T, T + 3 * sec / 2, T + 5 * sec / 2] =
    [.stale ⟨0, false, [⟨false, 5⟩], [], []⟩, .stale ⟨0, false, [⟨false, 5⟩], [], []⟩, .stale ⟨0, false, [⟨false, 5⟩], [], []⟩] := by decide
example : lazyRun true 86400 5 (guarded fresh300) old [T, T + 3 * sec / 2] =
    [.stale ⟨0, false, [⟨false, 5⟩], [], []⟩, .fresh ⟨0, false, [⟨false, 299⟩], [], []⟩] := by decide
/-- The guard matters: were the copy taken after the stale answer is in the context, a failed refresh would
store the stale answer as new (served as a fresh hit with TTL 4, no refresh), and a guarded upstream would never be asked. -/
example : lazyRun false 86400 5 id old [T, T + 3 * sec / 2] =
    [.stale ⟨0, false, [⟨false, 5⟩], [], []⟩, .fresh ⟨0, false, [⟨false, 4⟩], [], []⟩] := by decide
example : lazyRun false 86400 5 (guarded fresh300) old [T, T + 3 * sec / 2] =
    [.stale ⟨0, false, [⟨false, 5⟩], [], []⟩, .fresh ⟨0, false, [⟨false, 4⟩], [], []⟩] := by decide

def ten : Item := ⟨⟨0, false, [⟨false, 10⟩], [], []⟩, T, T + 10 * sec, T + 10 * sec⟩
def hour : Item := ⟨⟨0, false, [⟨false, 3600⟩], [], []⟩, T, T + 3600 * sec, T + 3600 * sec⟩
/-- The ownership facts matter: an answer good for 10 s whose reply a `ttl 600-0` behind the plugin raises to
600 s. Were the records shared (`storeCopies = false`), the hit 2.5 s later would hand out 598 s for an answer
that has 7.5 s left; a fixed `ttl 5` on an answer good for an hour would make every hit after 5 s carry TTL 1. -/
example : aliasRun true true false 5 false ten [.rewrite (clampRR 600 0), .hit (T + 5 * sec / 2)] = [.fresh ⟨0, false, [⟨false, 8⟩], [], []⟩] := by decide
example : aliasRun false true false 5 true ten [.rewrite (clampRR 600 0), .hit (T + 5 * sec / 2)] = [.fresh ⟨0, false, [⟨false, 598⟩], [], []⟩] := by decide
example : aliasRun false true false 5 true hour [.rewrite (setRR 5), .hit (T + 201 * sec / 2)] = [.fresh ⟨0, false, [⟨false, 1⟩], [], []⟩] := by decide
example : aliasRun true true false 5 false hour [.rewrite (setRR 5), .hit (T + 201 * sec / 2)] = [.fresh ⟨0, false, [⟨false, 3500⟩], [], []⟩] := by decide
/-- ... and were a hit to hand out the stored message itself, the second hit would age the already aged TTLs. -/
example : aliasRun true false false 5 false hour [.hit (T + 201 * sec / 2), .hit (T + 401 * sec / 2)] =
    [.fresh ⟨0, false, [⟨false, 3500⟩], [], []⟩, .fresh ⟨0, false, [⟨false, 3300⟩], [], []⟩] := by decide

/-- a NXDOMAIN answer stored at `T` by a lazy instance, dumped, loaded and asked 40.5 s later by a lazy instance -/
def nx : Msg := ⟨3, false, [], [⟨false, 3600⟩], []⟩
example : reloadRun true 3600 3600 5 nx T (T + 81 * sec / 2) (T + 81 * sec / 2) = some .miss := by decide
example : reloadRun true 3600 3600 5 nx T (T + 21 * sec / 2) (T + 21 * sec / 2) = some (.fresh ⟨3, false, [], [⟨false, 3590⟩], []⟩) := by decide
/-- The fact matters: with the expiry derived again from the local `lazy_cache_ttl` the answer is back as a stale hit. -/
example : reloadRun false 3600 3600 5 nx T (T + 81 * sec / 2) (T + 81 * sec / 2) = some (.stale ⟨3, false, [], [⟨false, 5⟩], []⟩) := by decide

end Props.C05

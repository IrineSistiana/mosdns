import MosdnsVerif.Model.C06
import MosdnsVerif.Gen.Facts

/-!
# C06 — sequences execute exactly as their rules say

The walker `execNext`, with its explicit stack of pending jump returns, computes the continuation semantics `run`, and
each clause of the property that has a theorem here (accept / reject, jump, goto, errors, wrappers, a rule that does
not match) is one unfolding of `run` away from that. With the regenerated construction facts the chain that is walked
is the configured rule list.
-/
namespace Props.C06
open Model.C06

variable {St E : Type}

/-- **C06 (main).** The walker implementation (`execNext`: explicit rest of the
chain and stack of pending jump returns, as in `chain.go` / `built_in.go`)
computes exactly the continuation semantics `run` of the property statement:
rules in order, accept/reject end everything, `return` resumes after the
calling `jump` (or ends at top level), `jump` runs the target and continues,
`goto` runs the target and never comes back, an error from a matcher or an
action aborts everything, a wrapping plugin receives the rest of the chain
including the pending jump returns. For all programs of any length and nesting. -/
theorem exec_eq_run (sem : Sem St E) (rest : List Rule) (stack : List (List Rule)) (s : St) :
    execNext sem rest stack s = run sem rest (denote sem stack) s := by
  -- Each arm of `execNext` is the same arm of `run` once `denote` of the stack is unfolded
  -- (`denote (c :: st) = run c (denote st)`): the end of the chain and `return` pop the stack, i.e. call the
  -- continuation; `jump` pushes the rest, i.e. continues the target with `run rs (denote stack)`; `goto` empties it.
  fun_induction execNext sem rest stack s <;> simp only [run, denote, *]

/-- **Reusable continuation.** What a wrapping plugin `w` at `rule :: rs` is
handed is the function `run rs (denote stack)`: a value that does not depend on
how often, from which state, or in which order it is invoked - zero, one or
many times (also concurrently on copies) it executes the same remaining rules
and the same pending jump returns. -/
theorem continuation_reusable (sem : Sem St E) (ms : List (Bool × Nat)) (w : Nat)
    (rs : List Rule) (stack : List (List Rule)) (s s' : St)
    (hm : evalMatchers sem ms s = .ok (true, s')) :
    execNext sem (.mk ms (.wrap w) :: rs) stack s = sem.wrapFn w (run sem rs (denote sem stack)) s' := by
  rw [exec_eq_run]
  simp [run, hm]

/-- **Errors abort everything**: an error from a matcher or from a plain action
of the first applicable rule is the result, whatever follows and whoever called. -/
theorem error_aborts (sem : Sem St E) (ms : List (Bool × Nat)) (act : Action) (rs : List Rule)
    (stack : List (List Rule)) (s : St) (e : E) :
    (evalMatchers sem ms s = .error e → execNext sem (.mk ms act :: rs) stack s = .error e) ∧
    (∀ a s', act = .plain a → evalMatchers sem ms s = .ok (true, s') → sem.execFn a s' = .error e →
      execNext sem (.mk ms act :: rs) stack s = .error e) := by
  constructor
  · intro h; rw [exec_eq_run]; simp [run, h]
  · rintro a s' rfl hm he; rw [exec_eq_run]; simp [run, hm, he]

/-- accept and reject end all processing, also inside nested jumps. -/
theorem accept_reject_end (sem : Sem St E) (ms : List (Bool × Nat)) (rs : List Rule)
    (stack : List (List Rule)) (s s' : St) (hm : evalMatchers sem ms s = .ok (true, s')) :
    execNext sem (.mk ms .accept :: rs) stack s = .ok s' ∧
    ∀ rc, execNext sem (.mk ms (.reject rc) :: rs) stack s = .ok (sem.setResp rc s') := by
  constructor
  · rw [exec_eq_run]; simp [run, hm]
  · intro rc; rw [exec_eq_run]; simp [run, hm]

/-- goto never comes back: neither the rest of the current sequence nor any
pending jump return influences the result. -/
theorem goto_never_returns (sem : Sem St E) (ms : List (Bool × Nat)) (t rs : List Rule)
    (stack : List (List Rule)) (s s' : St) (hm : evalMatchers sem ms s = .ok (true, s')) :
    execNext sem (.mk ms (.goto t) :: rs) stack s = run sem t .ok s' := by
  rw [exec_eq_run]
  simp [run, hm]

/-- jump runs the target and then continues with the rest; return inside the
target resumes exactly there. -/
theorem jump_then_continue (sem : Sem St E) (ms : List (Bool × Nat)) (t rs : List Rule)
    (stack : List (List Rule)) (s s' : St) (hm : evalMatchers sem ms s = .ok (true, s')) :
    execNext sem (.mk ms (.jump t) :: rs) stack s = run sem t (run sem rs (denote sem stack)) s' := by
  rw [exec_eq_run]; simp [run, hm]

/-- A rule whose matchers do not all hold is skipped: its action is not run. -/
theorem unmatched_skipped (sem : Sem St E) (ms : List (Bool × Nat)) (act : Action) (rs : List Rule)
    (stack : List (List Rule)) (s s' : St) (hm : evalMatchers sem ms s = .ok (false, s')) :
    execNext sem (.mk ms act :: rs) stack s = execNext sem rs stack s' := by
  rw [exec_eq_run, exec_eq_run]; simp [run, hm]

def logSem (truth : Nat → Bool) : Sem (List Nat) Unit where
  matchFn m log := .ok (truth m, log ++ [m])
  execFn a log := .ok (log ++ [1000 + a])
  wrapFn _ k log := k log
  setResp _ log := log

def firstFalse (truth : Nat → Bool) : List (Bool × Nat) → List Nat × Bool
  | [] => ([], true)
  | (rev, m) :: ms =>
    if truth m != rev then let r := firstFalse truth ms; (m :: r.1, r.2) else ([m], false)

/-- The log after evaluating a rule's matchers holds exactly the matchers up to and including the first one
that is false after negation, in order; the result is "all matched". -/
theorem matchers_short_circuit (truth : Nat → Bool) (ms : List (Bool × Nat)) (log : List Nat) :
    evalMatchers (logSem truth) ms log = .ok ((firstFalse truth ms).2, log ++ (firstFalse truth ms).1) := by
  induction ms generalizing log with
  | nil => simp [evalMatchers, firstFalse]
  | cons p ms ih =>
    obtain ⟨rev, m⟩ := p
    have := ih (log ++ [m])
    simp only [logSem] at this
    simp only [evalMatchers, logSem, firstFalse, this]
    split <;> simp

/-! ### The executed chain is the configured rule list

`Sequence.Exec` runs `execNext` on the chain that `NewSequence` built. With the
regenerated facts about `buildChain` (one node appended per rule) and about the
rest of the package (nothing rewrites a chain or a node afterwards) that chain
is the rule list itself: same length, rule `i` at position `i`, so every rule's
own matchers are evaluated when the walker reaches it. -/

/-- The construction facts as regenerated from the source (defaults that make
the theorems below unprovable when a fact could not be read). -/
def genBuild : Build :=
  { appendsPerRule := Gen.Facts.c06ChainAppendsPerRule.getD 0
    rewrites := Gen.Facts.c06ChainRewrites.getD 1
    earlyMatcherReturns := Gen.Facts.c06NewMatcherEarlyReturns.getD 1 }

theorem wireMatchers_id (b : Build) (h : b.earlyMatcherReturns = 0) (early : Nat → Nat → Bool)
    (ri mi : Nat) (ms : List (Bool × Nat)) : b.wireMatchers early ri mi ms = ms := by
  induction ms generalizing mi with
  | nil => rfl
  | cons p ms ih => obtain ⟨rev, m⟩ := p; simp [Build.wireMatchers, h, ih]

theorem wireRules_id (b : Build) (h : b.earlyMatcherReturns = 0) (early : Nat → Nat → Bool)
    (ri : Nat) (rules : List Rule) : b.wireRules early ri rules = rules := by
  induction rules generalizing ri with
  | nil => rfl
  | cons r rs ih => cases r; simp [Build.wireRules, wireMatchers_id b h, ih]

/-- **One node per rule, none merged, dropped, duplicated or reordered, every
matcher negated exactly where '!' was written**: the chain built by the current
`NewSequence`/`buildChain`/`newNode`/`newMatcher` is exactly the configured
rule list, whatever a (non-existent) later pass or early return would do. -/
theorem built_chain_is_rules (rewrite : List Rule → List Rule) (early : Nat → Nat → Bool)
    (rules : List Rule) : genBuild.chain rewrite early rules = rules := by
  simp only [Build.chain, wireRules_id genBuild rfl]
  simp [genBuild, Gen.Facts.c06ChainAppendsPerRule, Gen.Facts.c06ChainRewrites, List.replicate_one]

theorem built_chain_length (rewrite : List Rule → List Rule) (early : Nat → Nat → Bool)
    (rules : List Rule) : (genBuild.chain rewrite early rules).length = rules.length := by
  rw [built_chain_is_rules]

/-- **C06 from the rule list**: executing the sequence built from `rules`
(`Sequence.Exec`: a fresh walker on the built chain, no caller) is the
continuation semantics of the property statement on `rules`. -/
theorem sequence_exec_eq_run (sem : Sem St E) (rewrite : List Rule → List Rule)
    (early : Nat → Nat → Bool) (rules : List Rule) (s : St) :
    execNext sem (genBuild.chain rewrite early rules) [] s = run sem rules .ok s := by
  rw [built_chain_is_rules, exec_eq_run]; rfl

/-- State = (log, response present); matcher 0 = "a response is present"; action 1 answers
the query, action 2 only logs, action 12 is "1 then 2" as a folded node would run them. -/
def respSem : Sem (List Nat × Bool) Unit where
  matchFn m s := .ok (s.2, (s.1 ++ [m], s.2))
  execFn a s := .ok (if a = 12 then (s.1 ++ [101, 102], true) else (s.1 ++ [100 + a], s.2 || a == 1))
  wrapFn _ k s := k s
  setResp _ s := (s.1, true)

def twoRules : List Rule := [.mk [(true, 0)] (.plain 1), .mk [(true, 0)] (.plain 2)]
def folded : List Rule → List Rule := fun _ => [.mk [(true, 0)] (.plain 12)]

/-- Why the construction facts matter: a pass that folds a rule into the
preceding one when both carry the same condition (so that the condition is
looked at once for both actions) is *not* semantics preserving. Program: `!0 -> 1 ; !0 -> 2`. -/
theorem folding_rules_changes_behaviour :
    run respSem twoRules .ok ([], false) = .ok ([0, 101, 0], true) ∧
    execNext respSem (Build.chain ⟨1, 1, 0⟩ folded (fun _ _ => false) twoRules) [] ([], false) = .ok ([0, 101, 102], true) := by
  -- `run` and `execNext` are defined by well-founded recursion and do not reduce, so `decide` is no option here and
  -- in the examples below: `simp` unfolds them by their equations
  constructor
  · simp [run, evalMatchers, respSem, twoRules]
  · simp [Build.chain, folded, exec_eq_run, run, denote, evalMatchers, respSem]

def ifElse : List Rule := [.mk [(false, 0)] (.plain 1), .mk [(true, 0)] (.plain 2)]

/-- Why "no return ahead of the reverse wiring" matters: a `newMatcher` that
remembers the matchers it built by their text and returns the remembered one
straight away (`early`: every rule after the first) loses the '!' of the
if/else idiom `0 -> 1 ; !0 -> 2`: both branches run. -/
theorem lost_negation_changes_behaviour :
    run (logSem fun _ => true) ifElse .ok [] = .ok [0, 1001, 0] ∧
    execNext (logSem fun _ => true) (Build.chain ⟨1, 0, 1⟩ id (fun ri _ => ri ≥ 1) ifElse) [] [] =
      .ok [0, 1001, 0, 1002] := by
  constructor
  · simp [run, evalMatchers, logSem, ifElse]
  · simp [Build.chain, Build.wireRules, Build.wireMatchers, ifElse, exec_eq_run, run, denote,
      evalMatchers, logSem]

theorem facts_guard :
    Gen.Facts.c06ExecNextDoesNotMutateWalker = some true ∧
    Gen.Facts.c06NextIsRestOfChain = some true ∧
    Gen.Facts.c06EndOfChainJumpsBack = some true ∧
    Gen.Facts.c06MatchLoopShape = some true ∧
    Gen.Facts.c06ReturnUsesJumpBack = some true ∧
    Gen.Facts.c06JumpPushesNext = some true ∧
    Gen.Facts.c06GotoDropsStack = some true ∧
    Gen.Facts.c06AcceptRejectReturnNil = some true ∧
    Gen.Facts.c06ReverseNegatesNonError = some true ∧
    Gen.Facts.c06EPreferredOverRE = some true ∧
    Gen.Facts.c06BuildChainShape = some true ∧
    Gen.Facts.c06ChainAppendsPerRule = some 1 ∧
    Gen.Facts.c06ChainRewrites = some 0 ∧
    Gen.Facts.c06NewNodeShape = some true ∧
    Gen.Facts.c06NewMatcherEarlyReturns = some 0 ∧
    Gen.Facts.c06NewSequenceShape = some true ∧
    Gen.Facts.c06SequenceExecWalksWholeChain = some true := by decide

/-! A program with jump, return, goto and a wrapper that runs its continuation twice; the log shows every clause
at work. -/
def twice : Sem (List Nat) Unit := { logSem (fun m => m % 2 == 1) with wrapFn := fun _ k log => (k log).bind k }
def inner : List Rule := [.mk [] (.plain 1), .mk [(false, 1)] .ret, .mk [] (.plain 2)]
def prog : List Rule := [.mk [(false, 3), (true, 2)] (.jump inner), .mk [] (.wrap 0), .mk [(false, 2)] (.plain 9), .mk [] (.plain 3)]
-- matchers 3 and !2 hold; jump: action 1, matcher 1 holds -> return (action 2 skipped); wrapper runs the rest twice:
-- matcher 2 is false -> plain 9 skipped, plain 3 runs; then the same again.
example : execNext twice prog [] [] = .ok [3, 2, 1001, 1, 2, 1003, 2, 1003] := by
  simp [exec_eq_run, run, denote, evalMatchers, twice, logSem, inner, prog, Except.bind]
example : execNext (logSem fun _ => true) [.mk [] (.jump [.mk [] (.goto [.mk [] (.plain 5)])]), .mk [] (.plain 6)] [] [] = .ok [1005] := by
  simp [exec_eq_run, run, denote, evalMatchers, logSem]

end Props.C06

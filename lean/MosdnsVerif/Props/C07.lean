import MosdnsVerif.Model.C07
import MosdnsVerif.Model.C07R
import MosdnsVerif.Model.C07U
import MosdnsVerif.Lemmas.C07Locks
import MosdnsVerif.Model.C09
import MosdnsVerif.Props.C09
import MosdnsVerif.Lemmas.Lts
import MosdnsVerif.Base.Facts
import MosdnsVerif.Gen.Facts

/-!
# C07 — exchanges always terminate; Close releases everything
-/
namespace Props.C07
open Model.C07 Model.C07R Lemmas.C07Locks

/-! ## Part A: a parked caller is always covered by the short read deadline -/

theorem conn_init_inv : ({} : Conn).Inv := by
  constructor <;> simp

/-- Under the clause `flag` of `Conn.Inv` both branches of `arm` give the same state: where the flag is set already, the
short deadline is in force already. -/
theorem arm_eq_of_flag (s : Conn) (hf : s.waitingResp = true → s.dl = .short) :
    arm s = { s with waitingResp := true, dl := .short } := by
  unfold arm
  split
  next h => rw [← hf h, ← h]   -- leaves `s = { s with waitingResp := s.waitingResp, dl := s.dl }`: `rfl` by eta, which `rw` tries
  next => rfl

theorem conn_inv_step {s s' : Conn} {l : CLabel} (hi : s.Inv) (hs : s.step l = some s') : s'.Inv := by
  obtain ⟨hq, hflag, hblk, hex⟩ := hi
  cases l <;> simp only [Conn.step, arm_eq_of_flag s hflag, Option.ite_none_right_eq_some, Option.ite_none_left_eq_some, Option.some.injEq,
    reduceCtorEq] at hs   -- this closes `callerLeaveUnarmed`, which is never enabled
  case readerArm =>
    obtain ⟨-, hs⟩ := hs
    split at hs <;> cases hs
    · exact { q := hq, flag := fun _ => rfl, blk := fun _ => ⟨by simp, fun _ => rfl⟩, ex := fun h => by simp at h }
    · -- the table is empty, so nobody is parked
      exact { q := hq, flag := fun h => by simp at h, blk := fun _ => ⟨by simp, fun hp => by simp only at hp; omega⟩
              ex := fun h => by simp at h }
  all_goals obtain ⟨hg, rfl⟩ := hs
  case readerGotParked | readerGotUnarmed | readerGotStray =>
    -- the reader is back at the top of its loop: the clauses about a blocked or exited reader are void
    exact { q := by simp only; omega, flag := hflag, blk := fun h => by simp at h, ex := fun h => by simp at h }
  case readerFail => exact { q := hq, flag := hflag, blk := fun h => by simp at h, ex := fun _ => rfl }
  case callerAdd => exact { q := by simp only; omega, flag := hflag, blk := hblk, ex := fun h => absurd (hex h) hg }
  case callerWriteFail => exact { q := by simp only; omega, flag := hflag, blk := hblk, ex := fun _ => rfl }
  case callerArm | callerArmLate =>
    exact { q := by simp only; omega, flag := fun _ => rfl, blk := fun _ => ⟨by simp, fun _ => rfl⟩, ex := hex }
  case callerLeave =>
    exact { q := by simp only; omega, flag := hflag, blk := fun h => ⟨(hblk h).1, fun hp => (hblk h).2 (by simp only at hp; omega)⟩
            ex := hex }

theorem Conn.run_eq (s : Conn) (ls : List CLabel) : s.run ls = Lts.run Conn.step s ls := by
  fun_induction Conn.run <;> simp only [Lts.run, *]

theorem conn_reach {ls : List CLabel} {s : Conn} (hr : ({} : Conn).run ls = some s) : s.Inv :=
  Lts.run_inv conn_inv_step conn_init_inv (Conn.run_eq _ _ ▸ hr)

/-- **A caller parked in its final wait is never left under the idle deadline
(or none)**: in every reachable state with a parked caller on a connection
that is not closed, the reader is either about to arm the waiting-reply
deadline, or sleeps under it. -/
theorem parked_is_covered (ls : List CLabel) (s : Conn) (hr : ({} : Conn).run ls = some s)
    (hp : s.parked > 0) (hc : s.closed = false) :
    (s.rd = .top ∧ ∃ s', s.step .readerArm = some s' ∧ s'.dl = .short ∧ s'.rd = .blocked) ∨
    (s.rd = .blocked ∧ s.dl = .short) := by
  have hi := conn_reach hr
  cases hrd : s.rd with
  | top =>
    left
    refine ⟨rfl, ?_⟩
    have hq : s.queue > 0 := by have := hi.q; omega
    simp only [Conn.step, hrd, ↓reduceIte, hq]
    exact ⟨_, rfl, rfl, rfl⟩
  | blocked => right; exact ⟨rfl, (hi.blk hrd).2 hp⟩
  | exited => have := hi.ex hrd; rw [hc] at this; cases this

/-- **Silence ends in a close within the waiting-reply timeout**: from such a
state, with no further input, at most two reader steps (arm, expiry of the
short deadline) close the connection, which wakes every parked caller. -/
theorem silence_closes (ls : List CLabel) (s : Conn) (hr : ({} : Conn).run ls = some s)
    (hp : s.parked > 0) (hc : s.closed = false) :
    ∃ path s', path.length ≤ 2 ∧ (∀ l ∈ path, l = .readerArm ∨ l = .readerFail) ∧ s.run path = some s' ∧ s'.closed = true := by
  rcases parked_is_covered ls s hr hp hc with ⟨ht, s1, h1, h2, h3⟩ | ⟨hb, _⟩
  · refine ⟨[.readerArm, .readerFail], { s1 with rd := .exited, closed := true }, by simp, by simp, ?_, rfl⟩
    simp only [Conn.run]
    rw [h1]
    simp only [Conn.step, h3, ↓reduceIte]
  · refine ⟨[.readerFail], { s with rd := .exited, closed := true }, by simp, by simp, ?_, rfl⟩
    simp only [Conn.run, Conn.step, hb, ↓reduceIte]

/-- a blocked reader always has some deadline: an idle connection is closed by the idle timeout -/
theorem reader_always_has_deadline (ls : List CLabel) (s : Conn) (hr : ({} : Conn).run ls = some s)
    (hb : s.rd = .blocked) : s.dl ≠ .none :=
  ((conn_reach hr).blk hb).1

/-- witness: with the sticky flag (the reader never clears `waitingResp`) a
query sent after an idle period is parked under the idle deadline -/
example :
    let s1 := stickyArm { ({} : Conn) with queue := 1, parked := 1 }             -- first query: flag set, short deadline
    let s2 := stickyArm { s1 with queue := 0, parked := 0, rd := .top }          -- answered: idle deadline, flag still set
    let s3 := arm { s2 with queue := 1, unarmed := 1 }                           -- next query after the idle period
    (s3.rd, s3.dl, s3.waitingResp) = (.blocked, .idle, true) := by decide

-- two queries in a row, each parked under the short deadline
example : ((({} : Conn).run [.readerArm, .callerAdd, .callerArm, .readerGotParked, .readerArm, .callerAdd, .callerArm]).map
    (fun s => (s.parked, s.dl, s.rd))) = some (1, .short, .blocked) := by decide

/-! ## Part B: the lock protocols around Close cannot deadlock -/

theorem move_mem_next {progs : List (List Act)} {s s' : Sys} {t : Nat} (h : s.move progs t = some s') : s' ∈ s.next progs := by
  simp only [Sys.next, List.mem_filterMap, threads, List.mem_range]
  refine ⟨t, Nat.lt_of_not_le fun hge => ?_, h⟩
  have : progs[t]?.getD [] = [] := by simp [List.getElem?_eq_none hge]
  simp [Sys.move, this] at h

theorem Sys.run_eq (progs : List (List Act)) (s : Sys) (ts : List Nat) : s.run progs ts = Lts.run (Sys.move progs) s ts := by
  fun_induction Sys.run <;> simp only [Lts.run, *]

/-- `h` is one Boolean because that is what `reuse_check` / `pipe_check` state. -/
theorem never_deadlocks {progs : List (List Act)} {R : List Sys} {init : Sys}
    (h : (R.contains init && closedUnder progs R && noDeadlock progs R) = true)
    {ts : List Nat} {s : Sys} (hr : init.run progs ts = some s) : s.deadlocked progs = false := by
  simp only [Bool.and_eq_true, List.contains_iff_mem, closedUnder, noDeadlock, List.all_eq_true, Bool.not_eq_true'] at h
  obtain ⟨⟨h0, hc⟩, hd⟩ := h
  exact hd s (Lts.run_inv (P := (· ∈ R)) (fun hs hm => hc _ hs _ (move_mem_next hm)) h0 (Sys.run_eq .. ▸ hr))

/-- **ReuseConnTransport: Close, two failing connections' `closeWithErr` and a
pool operation never deadlock**, in any interleaving. -/
theorem reuse_close_never_deadlocks (ts : List Nat) (s : Sys) (hr : reuseInit.run reuseProgs ts = some s) :
    s.deadlocked reuseProgs = false :=
  never_deadlocks reuse_check hr

/-- **PipelineTransport: a late reservation waiting for the early callers (it
holds the transport mutex and the wrapper's mutex), an early caller that
proceeds, one that was cancelled, and Close never deadlock.** -/
theorem pipe_close_never_deadlocks (ts : List Nat) (s : Sys) (hr : pipeInit.run pipeProgs ts = some s) :
    s.deadlocked pipeProgs = false :=
  never_deadlocks pipe_check hr

/-- witness for the repaired defect (pool delete inside the Once): Close holds
the transport mutex and waits for the Once; the failing connection runs the
Once and waits for the transport mutex -/
example : ((Sys.init reuseProgsOld 1 1 0).run reuseProgsOld [1, 0]).map (·.deadlocked reuseProgsOld) = some true := by decide

/-- witness for the seeded defect (no `wg.Done` when an early caller's context
ends): everybody else finishes and the late reservation waits forever, holding
the transport mutex, so Close blocks as well -/
example : ((Sys.init pipeProgsLeaky 3 0 2).run pipeProgsLeaky [2, 2, 1, 1, 1, 1, 1, 1, 1, 0, 0]).map (·.deadlocked pipeProgsLeaky) = some true := by decide

example : (pipeInit.run pipeProgs [0, 0, 1, 1, 1, 2, 0]).map (·.deadlocked pipeProgs) = some false := by decide

/-! ## the dialing wrapper never blocks a late reservation once the early callers are through -/

open Model.C09 in
theorem late_reservation_not_blocked (max : Nat) (ls : List LLabel) (s : Lazy) (hr : (Lazy.init max).run ls = some s)
    (hd : s.dial = .ok) (he : s.eh = 0 ∧ s.ew = 0) : ∃ s', s.step .reserve = some (s', .none) := by
  have hw := (Props.C09.lazy_reach hr).1.wgOk (by rw [hd]; simp)
  have : s.wg = 0 := by rw [hw, he.1, he.2]; simp
  simp only [Lazy.step, hd, this, ↓reduceIte]
  exact ⟨_, rfl⟩

/-! ## Part C: the read deadline of the non-pipelined (reused) connection -/

theorem safeRest_of_no_setIdle (l : List RAct) (h : RAct.setIdle ∉ l) : safeRest l = true := by
  fun_induction safeRest l with
  | case1 => rfl                                                          -- nothing left
  | case2 t => exact absurd List.mem_cons_self h                          -- `setIdle` in front
  | case3 a t _ ih => exact ih (fun e => h (List.mem_cons_of_mem _ e))    -- any other action in front

theorem safeRest_head_setIdle (t : List RAct) (h : safeRest (.setIdle :: t) = true) : RAct.setIdleDl ∉ t ∧ RAct.setIdle ∉ t := by
  simp only [safeRest, Bool.and_eq_true, Bool.not_eq_true', List.contains_eq_mem, decide_eq_false_iff_not] at h
  exact h

theorem safeRest_tail (a : RAct) (t : List RAct) (h : safeRest (a :: t) = true) : safeRest t = true := by
  cases a
  case setIdle => exact safeRest_of_no_setIdle t (safeRest_head_setIdle t h).2
  all_goals exact h

theorem rconn_init_inv : ({} : RConn).Inv := by
  constructor <;> simp [safeRest]

theorem rconn_inv_step {ord : List RAct} (ho : safeRest ord = true) {s s' : RConn} {l : RLabel} (hi : s.Inv)
    (hs : s.step ord l = some s') : s'.Inv := by
  obtain ⟨hsafe, hpool, hpend, hact, harmed⟩ := hi
  cases l <;> simp only [RConn.step, Option.ite_none_right_eq_some, Option.some.injEq] at hs
  case readerAct =>
    cases hr : s.rest with
    | nil => rw [hr] at hs; cases hs
    | cons a t =>
      rw [hr] at hs hsafe hpool hpend hact
      cases hs
      have hst := safeRest_tail a t hsafe
      cases a <;> simp only [RConn.act]
      case setIdleDl =>
        -- a deadline call is pending: the connection is neither pooled nor owned
        exact { safe := hst, pool := fun h => absurd List.mem_cons_self (hpool h).1, pend := fun h => hpend (List.mem_cons_of_mem _ h)
                act := fun h => absurd List.mem_cons_self (hact h)
                armed := fun h => absurd List.mem_cons_self (hact (Nat.le_trans (by decide) h)) }
      case setIdle =>
        obtain ⟨_, hc0, hw⟩ := hpend List.mem_cons_self
        obtain ⟨hn1, hn2⟩ := safeRest_head_setIdle t hsafe
        exact { safe := hst, pool := fun _ => ⟨hn1, hw, hc0⟩, pend := fun h => absurd h hn2, act := fun h => by simp [hc0] at h
                armed := fun h => by simp [hc0] at h }
      case handOver | other =>
        exact { safe := hst, pool := fun h => ⟨fun m => (hpool h).1 (List.mem_cons_of_mem _ m), (hpool h).2⟩
                pend := fun h => hpend (List.mem_cons_of_mem _ h), act := fun h m => hact h (List.mem_cons_of_mem _ m), armed := harmed }
  all_goals obtain ⟨hc, rfl⟩ := hs
  case callerTake =>
    exact { safe := hsafe, pool := fun h => by simp at h, pend := fun h => by have := (hpend h).1; simp [hc.1] at this
            act := fun _ => (hpool hc.1).1, armed := fun h => by simp at h }
  -- the caller owns the connection (`cpc ≥ 1`), so it is neither pooled nor about to be
  case callerArm =>
    exact { safe := hsafe, pool := fun h => by have := (hpool h).2.2; omega, pend := fun h => by have := (hpend h).2.1; omega
            act := fun _ => hact (by omega), armed := fun _ => rfl }
  case callerInstall | callerWrite | callerLeave =>
    exact { safe := hsafe, pool := fun h => by have := (hpool h).2.2; omega, pend := fun h => by have := (hpend h).2.1; omega
            act := fun _ => hact (by omega), armed := fun h => harmed (by simp only at h; omega) }
  case readerGot =>
    -- a channel is installed, so the connection is not in the pool
    have hnp : s.pooled = false := Bool.eq_false_iff.mpr fun hp => by simp [(hpool hp).2.1] at hc
    exact { safe := ho, pool := fun h => by simp [hnp] at h, pend := fun _ => ⟨hnp, rfl, rfl⟩, act := fun h => by simp at h
            armed := fun h => by simp at h }
  case readerStray =>
    exact { safe := hsafe, pool := fun h => by simp at h, pend := fun h => ⟨rfl, (hpend h).2⟩, act := hact, armed := harmed }
  case readerFail =>
    exact { safe := hsafe, pool := fun h => by simp at h, pend := fun h => by simp [hc] at h, act := hact, armed := harmed }

theorem RConn.run_eq (ord : List RAct) (s : RConn) (ls : List RLabel) : s.run ord ls = Lts.run (RConn.step ord) s ls := by
  fun_induction RConn.run <;> simp only [Lts.run, *]

theorem rconn_reach {ord : List RAct} (ho : safeRest ord = true) {ls : List RLabel} {s : RConn}
    (hr : ({} : RConn).run ord ls = some s) : s.Inv :=
  Lts.run_inv (rconn_inv_step ho) rconn_init_inv (RConn.run_eq .. ▸ hr)

/-- **Non-pipelined connection: a query that was written and not answered is
covered by the waiting-reply deadline, and the reader has no deadline call left
to make**, for every order of the reader's actions in which the connection is
made available once and no deadline call follows that, in every interleaving of
the reader's pending actions with callers, replies, late replies and callers
that give up. -/
theorem reuse_parked_is_covered (ord : List RAct) (ho : safeRest ord = true) (ls : List RLabel) (s : RConn)
    (hr : ({} : RConn).run ord ls = some s) (hp : s.cpc = 4) : s.dl = .short ∧ RAct.setIdleDl ∉ s.rest := by
  have hi := rconn_reach ho hr
  exact ⟨hi.armed (by omega), hi.act (by omega)⟩

/-- the reader's remaining actions do not touch the deadline, and then it is in Read -/
theorem drain_keeps (ord : List RAct) (s : RConn) (hn : RAct.setIdleDl ∉ s.rest) :
    ∃ s', s.drain ord = some s' ∧ s'.rest = [] ∧ s'.dl = s.dl := by
  unfold RConn.drain
  generalize hr : s.rest = r at hn
  induction r generalizing s with
  | nil => exact ⟨s, rfl, hr, rfl⟩
  | cons a t ih =>
    have hstep : s.step ord .readerAct = some (s.act a t) := by simp only [RConn.step, hr]
    have hrest : (s.act a t).rest = t := by cases a <;> rfl
    have hdl : (s.act a t).dl = s.dl := by
      cases a
      case setIdleDl => exact absurd List.mem_cons_self hn
      all_goals rfl
    obtain ⟨s', h1, h2, h3⟩ := ih (s.act a t) hrest (fun m => hn (List.mem_cons_of_mem _ m))
    exact ⟨s', by simpa only [List.length_cons, List.replicate_succ, RConn.run, hstep] using h1, h2, h3.trans hdl⟩

/-- **Silence closes a reused connection within the waiting-reply timeout**: the
reader finishes what it has left without touching the deadline, is in Read under
the waiting-reply deadline, and its expiry closes the connection (which wakes
the caller: `closeNotify` is a case of its select, a regenerated fact). -/
theorem reuse_silence_closes (ord : List RAct) (ho : safeRest ord = true) (ls : List RLabel) (s : RConn)
    (hr : ({} : RConn).run ord ls = some s) (hp : s.cpc = 4) :
    ∃ s1 s2, s.drain ord = some s1 ∧ s1.rest = [] ∧ s1.dl = .short ∧
      s1.step ord .readerFail = some s2 ∧ s2.closed = true := by
  obtain ⟨hd, hn⟩ := reuse_parked_is_covered ord ho ls s hr hp
  obtain ⟨s1, h1, h2, h3⟩ := drain_keeps ord s hn
  refine ⟨s1, { s1 with closed := true, pooled := false }, h1, h2, by rw [h3, hd], ?_, rfl⟩
  simp only [RConn.step, h2, ↓reduceIte]

-- witness: with the idle deadline set after the hand-over the next query can be left under it
example : ((({} : RConn).run [.setIdle, .handOver, .setIdleDl]
    [.callerTake, .callerInstall, .callerArm, .callerWrite, .readerGot, .readerAct, .readerAct,
     .callerTake, .callerInstall, .callerArm, .callerWrite, .readerAct]).map (fun s => (s.cpc, s.dl, s.rest))) = some (4, .idle, []) := by decide

def readerOrder : List RAct := Gen.Facts.c07ReuseReaderOrder.map RAct.ofCode

/-- in reuse.go the idle deadline is set before the connection is put back into the pool, once -/
theorem reader_order_safe : safeRest readerOrder = true := by decide

theorem reuse_parked_is_covered_src (ls : List RLabel) (s : RConn) (hr : ({} : RConn).run readerOrder ls = some s) (hp : s.cpc = 4) :
    s.dl = .short ∧ RAct.setIdleDl ∉ s.rest :=
  reuse_parked_is_covered readerOrder reader_order_safe ls s hr hp

theorem reuse_silence_closes_src (ls : List RLabel) (s : RConn) (hr : ({} : RConn).run readerOrder ls = some s) (hp : s.cpc = 4) :
    ∃ s1 s2, s.run readerOrder (List.replicate s.rest.length .readerAct) = some s1 ∧ s1.rest = [] ∧ s1.dl = .short ∧
      s1.step readerOrder .readerFail = some s2 ∧ s2.closed = true :=
  reuse_silence_closes readerOrder reader_order_safe ls s hr hp

-- with the regenerated order the second query is parked under the short deadline
example : ((({} : RConn).run readerOrder [.callerTake, .callerInstall, .callerArm, .callerWrite, .readerGot, .readerAct, .readerAct,
    .callerTake, .callerInstall, .callerArm, .callerWrite, .readerAct]).map (fun s => (s.cpc, s.dl, s.rest))) = some (4, .short, []) := by decide

/-! ## Part D: the closed flag of PipelineTransport against Close -/

theorem forall_setPc {Q : Nat → Pc → Prop} {f : Nat → Pc} {i : Nat} {p : Pc} (hi : Q i p) (ho : ∀ j, j ≠ i → Q j (f j)) (j : Nat) :
    Q j (setPc f i p j) := by
  unfold setPc
  split
  · next e => exact e ▸ hi
  · next e => exact ho j e

/-- the clause `PT.Inv.holder` after caller `i` moved to `p` while the mutex went from `o` to `o'` -/
theorem holder_setPc {f : Nat → Pc} {o o' i : Nat} {p : Pc}
    (h : ∀ j, (f j = .locked ∨ f j = .checked ∨ f j = .inserted) → o = j + 2)
    (hp : (p = .locked ∨ p = .checked ∨ p = .inserted) → o' = i + 2) (ho : ∀ j, j ≠ i → o = j + 2 → o' = j + 2) :
    ∀ j, (setPc f i p j = .locked ∨ setPc f i p j = .checked ∨ setPc f i p j = .inserted) → o' = j + 2 :=
  forall_setPc (Q := fun j c => (c = .locked ∨ c = .checked ∨ c = .inserted) → o' = j + 2) hp (fun j e hj => ho j e (h j hj))

theorem passed_setPc {f : Nat → Pc} {b : Bool} {i : Nat} {p : Pc} (h : ∀ j, (f j = .checked ∨ f j = .inserted) → b = false)
    (hp : (p = .checked ∨ p = .inserted) → b = false) :
    ∀ j, (setPc f i p j = .checked ∨ setPc f i p j = .inserted) → b = false :=
  forall_setPc (Q := fun _ c => (c = .checked ∨ c = .inserted) → b = false) hp (fun j _ => h j)

theorem pt_init_inv : ({} : PT).Inv := by
  constructor <;> simp

theorem pt_inv_step {s s' : PT} {l : PLabel} (hi : s.Inv) (hs : s.step true l = some s') : s'.Inv := by
  obtain ⟨hflag, hcloseOwns, hholder, hpassed, hnoOpen, hnoLate⟩ := hi
  cases l <;> simp only [PT.step, ↓reduceIte, Option.ite_none_right_eq_some, Option.some.injEq] at hs
  case closeLock =>
    obtain ⟨⟨hc0, ho⟩, rfl⟩ := hs
    -- the mutex was free, so no caller is between `locked` and `inserted`
    exact { flag := ⟨fun h => by have := hflag.mp h; omega, fun h => by simp only at h; omega⟩, closeOwns := fun _ => rfl
            holder := fun j hj => by have := hholder j hj; omega, passed := hpassed, noOpen := hnoOpen, noLate := hnoLate }
  case closeMark =>
    obtain ⟨hc, rfl⟩ := hs
    -- Close has the mutex, so no caller is past its test
    have ho := hcloseOwns (Or.inl hc)
    exact { flag := ⟨fun _ => by simp, fun _ => rfl⟩, closeOwns := fun _ => ho, holder := hholder
            passed := fun j hj => by have := hholder j (Or.inr hj); omega, noOpen := fun _ => rfl, noLate := hnoLate }
  case closeUnlock =>
    obtain ⟨hc, rfl⟩ := hs
    have ho := hcloseOwns (Or.inr hc)
    exact { flag := ⟨fun _ => by simp, fun _ => hflag.mpr (by omega)⟩, closeOwns := fun h => by simp at h
            holder := fun j hj => by have := hholder j hj; omega, passed := hpassed, noOpen := hnoOpen, noLate := hnoLate }
  case callerLock i =>
    obtain ⟨ho, hp, rfl⟩ := hs
    -- the mutex was free: neither Close nor another caller had it
    exact { flag := hflag, closeOwns := fun h => by have := hcloseOwns h; omega
            holder := holder_setPc hholder (fun _ => rfl) (fun j _ hj => by omega)
            passed := passed_setPc hpassed (by simp), noOpen := hnoOpen, noLate := hnoLate }
  case callerCheck i =>
    obtain ⟨hp, hs⟩ := hs
    have hoi := hholder i (Or.inl hp)
    split at hs <;> cases hs
    · -- rejected: `i` gives the mutex back, which nobody else had
      exact { flag := hflag, closeOwns := fun h => by have := hcloseOwns h; omega
              holder := holder_setPc hholder (by simp) (fun j e hj => by omega)
              passed := passed_setPc hpassed (by simp), noOpen := hnoOpen, noLate := hnoLate }
    · next hcf =>
      exact { flag := hflag, closeOwns := hcloseOwns, holder := holder_setPc hholder (fun _ => hoi) (fun _ _ hj => hj)
              passed := passed_setPc hpassed (fun _ => by simpa using hcf), noOpen := hnoOpen, noLate := hnoLate }
  case callerInsert i =>
    obtain ⟨hp, rfl⟩ := hs
    have hoi := hholder i (Or.inr (Or.inl hp))
    have hcf := hpassed i (Or.inl hp)
    have hc3 : ¬ s.cpc = 3 := fun h => by have := hflag.mpr (by omega); rw [hcf] at this; cases this
    exact { flag := hflag, closeOwns := hcloseOwns, holder := holder_setPc hholder (fun _ => hoi) (fun _ _ hj => hj)
            passed := passed_setPc hpassed (fun _ => hcf), noOpen := fun h => (by rw [hcf] at h; cases h)
            noLate := by simp [hc3, hnoLate] }
  case callerUnlock i =>
    obtain ⟨hp, rfl⟩ := hs
    have hoi := hholder i (Or.inr (Or.inr hp))
    exact { flag := hflag, closeOwns := fun h => by have := hcloseOwns h; omega
            holder := holder_setPc hholder (by simp) (fun j e hj => by omega)
            passed := passed_setPc hpassed (by simp), noOpen := hnoOpen, noLate := hnoLate }

theorem PT.run_eq (b : Bool) (s : PT) (ls : List PLabel) : s.run b ls = Lts.run (PT.step b) s ls := by
  fun_induction PT.run <;> simp only [Lts.run, *]

theorem pt_reach {ls : List PLabel} {s : PT} (hr : ({} : PT).run true ls = some s) : s.Inv :=
  Lts.run_inv pt_inv_step pt_init_inv (PT.run_eq .. ▸ hr)

/-- **PipelineTransport: Close is final.** With the closed flag tested inside
the critical section that registers a connection, in every interleaving of Close
with any number of callers: no connection is registered after Close returned,
and when Close has returned every registered connection has been closed. -/
theorem close_is_final (ls : List PLabel) (s : PT) (hr : ({} : PT).run true ls = some s) :
    s.lateInserts = 0 ∧ (s.cpc = 3 → s.openConns = 0) := by
  have hi := pt_reach hr
  exact ⟨hi.noLate, fun h => hi.noOpen (hi.flag.mpr (by omega))⟩

-- witnesses: the flag tested before the mutex is taken (after Close took it, or before), a dial that completes while
-- Close holds the mutex
example : ((({} : PT).run false [.closeLock, .callerCheck 0, .closeMark, .closeUnlock, .callerLock 0, .callerInsert 0, .callerUnlock 0]).map
    (fun s => (s.cpc, s.openConns, s.lateInserts))) = some (3, 1, 1) := by decide
example : ((({} : PT).run false [.callerCheck 0, .closeLock, .closeMark, .closeUnlock, .callerLock 0, .callerInsert 0, .callerUnlock 0]).map
    (fun s => (s.cpc, s.openConns, s.lateInserts))) = some (3, 1, 1) := by decide
-- with the test under the mutex: Close waits while a caller holds the mutex, and a caller that comes after Close is rejected
example : ((({} : PT).run true [.callerLock 0, .closeLock]).isNone, (({} : PT).run true [.callerLock 0, .callerCheck 0, .callerInsert 0, .callerUnlock 0,
    .closeLock, .closeMark, .closeUnlock, .callerLock 1, .callerCheck 1]).map (fun s => (s.cpc, s.openConns, s.pcs 1))) = (true, some (3, 0, .rejected)) := by decide

theorem pipe_close_is_final_src (ls : List PLabel) (s : PT)
    (hr : ({} : PT).run (Gen.Facts.c07PipelineClosedCheckedUnderLock.getD false) ls = some s) :
    s.lateInserts = 0 ∧ (s.cpc = 3 → s.openConns = 0) :=
  close_is_final ls s hr   -- the fact evaluates to `true`

/-- the same protocol guards the pool of ReuseConnTransport (`newReusableConn` against `Close`): the model run with
the regenerated position of the `t.closed` test in `newReusableConn` -/
theorem reuse_close_is_final_src (ls : List PLabel) (s : PT)
    (hr : ({} : PT).run (Gen.Facts.c07ReuseClosedCheckedUnderLock.getD false) ls = some s) :
    s.lateInserts = 0 ∧ (s.cpc = 3 → s.openConns = 0) :=
  close_is_final ls s hr   -- the fact evaluates to `true`

/-! ## Part E: a reader blocked inside a frame is still under the deadline it armed -/

theorem fread_inv_step {mid : List FAct} (hm : FAct.clearDl ∉ mid) {s s' : FRead} {l : FLabel}
    (hi : s.dl ≠ .none ∧ FAct.clearDl ∉ s.rest) (hs : s.step mid l = some s') : s'.dl ≠ .none ∧ FAct.clearDl ∉ s'.rest := by
  obtain ⟨h1, h2⟩ := hi
  cases l <;> simp only [FRead.step, Option.ite_none_right_eq_some, Option.some.injEq] at hs
  case header => obtain ⟨-, rfl⟩ := hs; exact ⟨h1, hm⟩
  case body | expire => obtain ⟨-, rfl⟩ := hs; exact ⟨h1, h2⟩
  case act =>
    obtain ⟨-, hs⟩ := hs
    cases hr : s.rest with
    | nil => rw [hr] at hs h2; cases hs; exact ⟨h1, h2⟩
    | cons a t =>
      rw [hr] at hs h2
      have ht : FAct.clearDl ∉ t := fun h => h2 (List.mem_cons_of_mem _ h)
      cases a
      case clearDl => exact absurd List.mem_cons_self h2
      case setDl => cases hs; exact ⟨by simp, ht⟩
      case other => cases hs; exact ⟨h1, ht⟩

theorem FRead.run_eq (mid : List FAct) (s : FRead) (ls : List FLabel) : s.run mid ls = Lts.run (FRead.step mid) s ls := by
  fun_induction FRead.run <;> simp only [Lts.run, *]

/-- **a frame cut short is still timed out.** If the frame reader never clears the deadline, then whatever deadline
(`d`, not none: `reader_always_has_deadline`, `reuse_parked_is_covered`) the reader armed before it called the frame
reader, in every reachable state a deadline is in force, and whenever the reader is blocked - for the header or, after a
peer that sent the header or a part of the body went silent, for the rest of the frame - the expiry step is enabled. -/
theorem frame_read_stays_under_deadline (mid : List FAct) (hm : FAct.clearDl ∉ mid) (d : Dl) (hd : d ≠ .none)
    (ls : List FLabel) (s : FRead) (hr : ({ dl := d } : FRead).run mid ls = some s) :
    s.dl ≠ .none ∧ ((s.phase = 0 ∨ s.phase = 2) → ∃ s', s.step mid .expire = some s' ∧ s'.phase = 4) := by
  have hi := Lts.run_inv (P := fun s => s.dl ≠ .none ∧ FAct.clearDl ∉ s.rest) (fread_inv_step hm) ⟨hd, by simp⟩ (FRead.run_eq .. ▸ hr)
  refine ⟨hi.1, fun hp => ⟨{ s with phase := 4 }, ?_, rfl⟩⟩
  simp [FRead.step, hp, hi.1]

/-- the deadline calls of the frame readers as regenerated (none) -/
def frameReadCalls : List FAct := Gen.Facts.c07FrameReadDeadlineCalls.map FAct.ofCode

theorem frame_read_never_clears_src : FAct.clearDl ∉ frameReadCalls := by decide

theorem frame_read_stays_under_deadline_src (d : Dl) (hd : d ≠ .none) (ls : List FLabel) (s : FRead)
    (hr : ({ dl := d } : FRead).run frameReadCalls ls = some s) :
    s.dl ≠ .none ∧ ((s.phase = 0 ∨ s.phase = 2) → ∃ s', s.step frameReadCalls .expire = some s' ∧ s'.phase = 4) :=
  frame_read_stays_under_deadline frameReadCalls frame_read_never_clears_src d hd ls s hr

-- witness: the deadline cleared once the header is in: a peer that goes silent inside the frame holds the reader for ever
example : ((({ dl := .short } : FRead).run [.clearDl] [.header, .act, .act]).map (fun s => (s.phase, s.dl, (s.step [.clearDl] .expire).isNone))) =
    some (2, .none, true) := by decide

/-! ## part F: the upstreams composed out of transports (udp with its tcp retry, ...) -/

section Upstream
open Model.C07U

theorem codeAt_eq (ph : List Nat) (i : Nat) : codeAt ph i = ph.getD i 2 := by
  fun_induction codeAt ph i <;> simp [*]

theorem w_inv_step {ph : List Nat} {s s' : W} {l : WLabel} (hi : s.Inv ph) (hs : s.step ph l = some s') : s'.Inv ph := by
  cases l <;> simp only [W.step, Option.ite_none_right_eq_some, Option.some.injEq] at hs <;> obtain ⟨h, rfl⟩ := hs
  case next => exact fun _ => h.2
  case final | wake => exact fun h => by cases h
  case ctxEnd => exact hi

theorem W.run_eq (ph : List Nat) (s : W) (ls : List WLabel) : s.run ph ls = Lts.run (W.step ph) s ls := by
  -- `W.run` is written with `bind`, not with a `match` on the step: nothing for `fun_induction` to follow
  induction ls generalizing s with
  | nil => rfl
  | cons l ls ih => cases h : s.step ph l <;> simp [W.run, Lts.run, h, ih]

/-- If every inner exchange of a wrapper is given a context tied to the caller's, then in every reachable state
in which the caller's context has ended and the call has not returned, the returning step is enabled: there is no
phase in which the call can only wait for the server, the connection or a timeout of its own. (With the guarantee
of the transports for one exchange this is "every exchange returns promptly after its context is cancelled or times
out" for the composed upstream.) -/
theorem wrapper_returns_when_ctx_ends (ph : List Nat) (hne : ph.isEmpty = false) (ht : ph.all tied = true)
    (ls : List WLabel) (s : W) (hr : ({} : W).run ph ls = some s) (hd : s.ctxDone = true) (hn : s.returned = false) :
    ∃ s', s.step ph .wake = some s' ∧ s'.returned = true := by
  have h0 : ({} : W).Inv ph := fun _ => List.length_pos_iff.mpr (List.isEmpty_eq_false_iff.mp hne)
  have hi := Lts.run_inv (P := (·.Inv ph)) w_inv_step h0 (W.run_eq .. ▸ hr)
  have hc : tied (codeAt ph s.phase) = true := by
    rw [codeAt_eq, List.getD_eq_getElem?_getD, List.getElem?_eq_getElem (hi hn)]
    exact List.all_eq_true.mp ht _ (List.getElem_mem _)
  exact ⟨{ s with returned := true }, by simp [W.step, hn, hd, hc], rfl⟩

/-- witness: a second phase on a context that is not tied to the caller's (detached, or a fresh budget of its own):
after the truncated reply the end of the caller's context enables nothing -/
example : ((({} : W).run [0, 2] [.next, .ctxEnd]).bind (fun s => s.step [0, 2] .wake)) = none := by decide
example : ((({} : W).run [0, 0] [.next, .ctxEnd]).bind (fun s => s.step [0, 0] .wake)).map (·.returned) = some true := by decide

/-- the wrappers of pkg/upstream/upstream.go as regenerated -/
def upstreamWrappers : List (String × List Nat) := Gen.Facts.c07UpstreamCtxArgs.getD [("unknown", [2])]

/-- in upstream.go every inner exchange of every wrapper runs on the caller's context or one derived from it -/
theorem upstream_ctx_reaches_every_inner_exchange :
    upstreamWrappers.all (fun w => !w.2.isEmpty && w.2.all tied) = true := by decide

/-- `wrapper_returns_when_ctx_ends` at the regenerated wrappers -/
theorem upstream_wrappers_return_when_ctx_ends_src (w : String × List Nat) (hw : w ∈ upstreamWrappers)
    (ls : List WLabel) (s : W) (hr : ({} : W).run w.2 ls = some s) (hd : s.ctxDone = true) (hn : s.returned = false) :
    ∃ s', s.step w.2 .wake = some s' ∧ s'.returned = true := by
  have h := List.all_eq_true.mp upstream_ctx_reaches_every_inner_exchange w hw
  simp only [Bool.and_eq_true, Bool.not_eq_true'] at h
  exact wrapper_returns_when_ctx_ends w.2 h.1 h.2 ls s hr hd hn

end Upstream

/-- the transports' own liveness timeouts are "tens of seconds at most" -/
theorem timeouts_bounded :
    (Gen.Facts.c07WaitingReplyTimeoutMs.getD 1000000) ≤ 30000 ∧ (Gen.Facts.c07ReuseQueryTimeoutMs.getD 1000000) ≤ 30000 ∧
    (Gen.Facts.c07DialTimeoutMs.getD 1000000) ≤ 30000 ∧ 0 < Gen.Facts.c07WaitingReplyTimeoutMs.getD 0 ∧
    0 < Gen.Facts.c07ReuseQueryTimeoutMs.getD 0 ∧ 0 < Gen.Facts.c07DialTimeoutMs.getD 0 := by decide

/-- The regenerated facts the models above were written from (which waits cover which cases, who arms the read
deadline, the order and the locks of the close paths, where the closed flags are tested, the reader's action order of the
reused connection, the context every wrapper hands on). `decide` fails, and with it the build, once the source says
otherwise. -/
theorem facts_guard :
    Gen.Facts.c07TdcWaitCoversAll = some true ∧ Gen.Facts.c07TdcCallerArms = some true ∧ Gen.Facts.c07TdcReaderArms = some true ∧
    Gen.Facts.c07TdcCloseOnce = some true ∧ Gen.Facts.c07ReuseWaitCoversAll = some true ∧ Gen.Facts.c07ReuseReadErrCloses = some true ∧
    Gen.Facts.c07ReuseCloseWithErrOrder = some true ∧ Gen.Facts.c07ReuseCloseByTransportLockFree = some true ∧
    Gen.Facts.c07ReuseCloseShape = some true ∧ Gen.Facts.c07ReuseClosedRejects = some true ∧ Gen.Facts.c07ReuseDialWaitCoversAll = some true ∧
    Gen.Facts.c07ReuseNewConnAfterCloseRejected = some true ∧ Gen.Facts.c07LazyWaitCoversAll = some true ∧
    Gen.Facts.c07LazyDialBounded = some true ∧ Gen.Facts.c07LazyCloseShape = some true ∧
    Gen.Facts.c07PipelineCloseShape = some true ∧ Gen.Facts.c07PipelineClosedRejects = some true ∧
    Gen.Facts.c07PipelineClosedCheckedUnderLock = some true ∧ Gen.Facts.c07ReuseClosedCheckedUnderLock = some true ∧
    (∀ a ∈ [RAct.setIdleDl, .setIdle, .handOver], a ∈ Gen.Facts.c07ReuseReaderOrder.map RAct.ofCode) ∧
    Gen.Facts.c07UpstreamCtxArgs.isSome = true ∧ Gen.Facts.c07FallbackClosesBoth = some true ∧
    2 ≤ (Model.C07U.phasesOf Gen.Facts.c07UpstreamCtxArgs "udpWithFallback").length := by decide

end Props.C07

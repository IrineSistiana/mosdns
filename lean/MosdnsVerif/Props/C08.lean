import MosdnsVerif.Model.C08Inst

/-!
# C08 — failures of reused connections are retried, fresh ones reported
-/
namespace Props.C08
open Model.C08 Model.C08Inst Base

/-- If no retry is allowed from `B` on, the query is transmitted on at most
`B + 1` connections, whatever the environment does. -/
theorem attempts_le (allow : Nat → Bool) (cc : Bool) (B : Nat) (hB : ∀ r, B ≤ r → allow r = false) :
    ∀ (ts : List Turn) (retry n : Nat), retry ≤ B →
      (loop allow cc ts retry n).attempts ≤ n + (B - retry) + 1 := by
  intro ts retry n
  fun_induction loop allow cc ts retry n with
  | case8 ce rest retry n hcond ih =>
    -- a pooled connection failed and the loop goes on
    intro hr
    have hlt : retry < B := Nat.lt_of_not_le fun h => by simp [hB retry h] at hcond
    have := ih (by omega)
    omega
  | case9 ce rest retry n hcond =>
    -- a pooled connection failed and the loop gives up: this was transmission `n + 1`
    intro _
    show n + 1 ≤ n + (B - retry) + 1
    omega
  | _ =>
    -- every other turn ends the call, with `n` or `n + 1` transmissions (`simp only []` reduces `Res.attempts ⟨_, n, _⟩`)
    intros; simp only []; omega

/-- Where the loop gives up: after `k` failed pooled connections whose retries were all allowed, on transmission
`n + k + 1`, at a retry that is not allowed or (pipeline) with the context ended. -/
theorem gave_up_at (allow : Nat → Bool) (cc : Bool) :
    ∀ (ts : List Turn) (retry n : Nat),
      (loop allow cc ts retry n).outcome = .errGaveUp →
        ∃ k, (loop allow cc ts retry n).attempts = n + k + 1 ∧ (∀ j, j < k → allow (retry + j) = true) ∧
          (allow (retry + k) = false ∨ (cc = true ∧ (loop allow cc ts retry n).lastPooledCtxEnded = true)) := by
  intro ts retry n
  fun_induction loop allow cc ts retry n with
  | case8 ce rest retry n hcond ih =>
    -- a pooled connection failed and the loop goes on: one more allowed retry in front of what follows
    intro h
    obtain ⟨k, hatt, hall, hx⟩ := ih h
    refine ⟨k + 1, by omega, fun j hj => ?_, by rwa [← Nat.add_assoc, Nat.add_right_comm] ⟩
    cases j with
    | zero => simpa using (Bool.and_eq_true_iff.mp hcond).1
    | succ j => simpa [Nat.add_assoc, Nat.add_comm 1 j] using hall j (by omega)
  | case9 ce rest retry n hcond =>
    -- a pooled connection failed and the loop gives up
    intro _
    refine ⟨0, rfl, nofun, ?_⟩
    cases h : allow retry with
    | false => exact .inl rfl
    | true => exact .inr (by simpa [h] using hcond)
  | _ => intro h; cases h

/-- **An exchange reports failure only for one of the allowed reasons**: the
transport was closed, the dial / reservation of a new connection failed, the
attempt on a connection opened for it failed, the caller's context ended
(pipeline), or no further attempt was allowed. It never gives up on a reused
connection while another attempt is allowed and the context is alive. -/
theorem failure_only_if (allow : Nat → Bool) (cc : Bool) :
    ∀ (ts : List Turn) (retry n : Nat),
      (loop allow cc ts retry n).outcome = .errGaveUp →
        ∃ r, retry ≤ r ∧ (allow r = false ∨ (cc = true ∧ (loop allow cc ts retry n).lastPooledCtxEnded = true)) :=
  fun ts retry n h => let ⟨k, _, _, hx⟩ := gave_up_at allow cc ts retry n h; ⟨retry + k, Nat.le_add_right _ _, hx⟩

/-- The one step that retries: a dead pooled connection, with the context alive and a retry allowed, costs
one transmission and one retry. -/
theorem loop_pooled_dead_cons {allow : Nat → Bool} {retry : Nat} (h : allow retry = true) (cc : Bool) (rest : List Turn) (n : Nat) :
    loop allow cc (.pooled false false :: rest) retry n = loop allow cc rest (retry + 1) (n + 1) := by
  simp [loop, h]

/-- **Transparent retry succeeds when a fresh connection works**: with `stale`
silently dead pooled connections and a working server, the exchange succeeds
after `stale + 1` transmissions provided a retry is still allowed after each
of the `stale` failures. -/
theorem success_if_fresh_works (allow : Nat → Bool) (cc : Bool) (stale : Nat) :
    ∀ (retry n : Nat), (∀ r, retry ≤ r → r < retry + stale → allow r = true) →
      loop allow cc (staleThenFresh stale) retry n = ⟨.ok, n + stale + 1, false⟩ := by
  induction stale with
  | zero => intro retry n _; rfl
  | succ k ih =>
    intro retry n h
    rw [staleThenFresh, List.replicate_succ, List.cons_append, loop_pooled_dead_cons (h retry (Nat.le_refl _) (by omega)),
      ← staleThenFresh, ih _ _ (fun r hr1 hr2 => h r (by omega) (by omega))]
    congr 1; omega

/-! ### The history of a pooled connection does not matter -/

/-- A connection found in the pool (idle, or in use by others): `carriedAQuery = false` is a connection
that never carried a query - a dial that finished after the caller that asked for it had given up leaves
its connection in the pool -, `alive = false` one the server has dropped without the transport knowing. -/
structure PooledConn where
  carriedAQuery : Bool
  alive : Bool
  deriving DecidableEq, Repr

/-- the turns of a call that is handed these connections one after the other: each is a `pooled` turn,
whatever its history -/
def envOfPool (pool : List PooledConn) : List Turn := pool.map (fun c => .pooled c.alive false)

/-- **Any pool, any histories**: if a retry is allowed after each of the (at most `pool.length`) failures,
the call succeeds - on the first live pooled connection or on the connection dialed for it. -/
theorem success_any_history (allow : Nat → Bool) (cc : Bool) (pool : List PooledConn) :
    ∀ (retry n : Nat), (∀ r, retry ≤ r → r < retry + pool.length → allow r = true) →
      (loop allow cc (envOfPool pool ++ [.fresh true]) retry n).outcome = .ok := by
  induction pool with
  | nil => intro retry n _; rfl
  | cons c rest ih =>
    intro retry n h
    simp only [List.length_cons] at h
    cases hc : c.alive with
    | true => simp [envOfPool, loop, hc]
    | false =>
      simpa [envOfPool, hc, loop_pooled_dead_cons (h retry (Nat.le_refl _) (by omega))]
        using ih (retry + 1) (n + 1) (fun r hr1 hr2 => h r (by omega) (by omega))

section Threshold
variable {allow : Nat → Bool} {B : Nat} (hB : ∀ r, allow r = true ↔ r < B) (cc : Bool)
include hB

theorem threshold_at_most (ts : List Turn) : (loop allow cc ts 0 0).attempts ≤ B + 1 := by
  have := attempts_le allow cc B (fun r hr => Bool.eq_false_iff.mpr fun h => by have := (hB r).mp h; omega) ts 0 0 (Nat.zero_le _)
  omega

theorem threshold_absorbs (stale : Nat) (h : stale ≤ B) : (loop allow cc (staleThenFresh stale) 0 0).outcome = .ok := by
  rw [success_if_fresh_works allow cc stale 0 0 fun r _ hr => (hB r).mpr (by omega)]

theorem threshold_absorbs_any_history (pool : List PooledConn) (h : pool.length ≤ B) :
    (loop allow cc (envOfPool pool ++ [.fresh true]) 0 0).outcome = .ok :=
  success_any_history allow cc pool 0 0 fun r _ hr => (hB r).mpr (by omega)

end Threshold

theorem reuseAllow_iff (r : Nat) : reuseAllow r = true ↔ r < 3 := by
  simp only [reuseAllow, Gen.Facts.c08ReuseCmp, Gen.Facts.c08ReuseMaxRetry, Option.getD_some, Cmp.eval_le]
  omega

theorem pipelineAllow_iff (r : Nat) : pipelineAllow r = true ↔ r < 2 := by
  simp only [pipelineAllow, Gen.Facts.c08PipelineCmp, Gen.Facts.c08PipelineMaxRetry, Option.getD_some, Cmp.eval_lt]

/-- **No query is ever transmitted on more than 4 connections** (non-pipelined)
resp. 3 (pipelined / UDP), for every behaviour of server and network. -/
theorem reuse_at_most_4 (ts : List Turn) : (loop reuseAllow false ts 0 0).attempts ≤ 4 :=
  threshold_at_most reuseAllow_iff false ts

theorem pipeline_at_most_3 (ts : List Turn) : (loop pipelineAllow true ts 0 0).attempts ≤ 3 :=
  threshold_at_most pipelineAllow_iff true ts

/-- up to 3 (reuse) / 2 (pipeline) dead pooled connections are absorbed -/
theorem reuse_absorbs_3 (stale : Nat) (h : stale ≤ 3) :
    (loop reuseAllow false (staleThenFresh stale) 0 0).outcome = .ok :=
  threshold_absorbs reuseAllow_iff false stale h

theorem pipeline_absorbs_2 (stale : Nat) (h : stale ≤ 2) :
    (loop pipelineAllow true (staleThenFresh stale) 0 0).outcome = .ok :=
  threshold_absorbs pipelineAllow_iff true stale h

theorem reuse_absorbs_any_history (pool : List PooledConn) (h : pool.length ≤ 3) :
    (loop reuseAllow false (envOfPool pool ++ [.fresh true]) 0 0).outcome = .ok :=
  threshold_absorbs_any_history reuseAllow_iff false pool h

theorem pipeline_absorbs_any_history (pool : List PooledConn) (h : pool.length ≤ 2) :
    (loop pipelineAllow true (envOfPool pool ++ [.fresh true]) 0 0).outcome = .ok :=
  threshold_absorbs_any_history pipelineAllow_iff true pool h

/-- a pooled connection that never carried a query and was dropped by the server, then a working fresh one -/
example : loop reuseAllow false (envOfPool [⟨false, false⟩] ++ [.fresh true]) 0 0 = ⟨.ok, 2, false⟩ := by decide

/-! ### Queries queued behind a dial keep their slots (nothing failed: nothing may be reported)

"An exchange reports failure only after an attempt on a connection opened for it failed, ...": when the dial
of a pipeline connection succeeds, the queries that queued up on it (at most as many as the connection
takes) must all get a slot on it, whatever callers arrive at that moment and however the steps interleave;
otherwise one of them - possibly the one that opened the connection, for which the failure is final - fails
with nothing transmitted and no connection failed. -/
namespace Handoff
open Model.C08.Handoff

/-- With reserve-first a query between its two steps (`mid`) already holds its slot, so only the queries that
have done neither step need a free slot each: `mid` does not appear. -/
structure Inv (s : St) : Prop where
  refused : s.refused = 0
  slots : s.todo ≤ s.free

theorem step_inv (cap : Nat) {s : St} (h : Inv s) (e : Ev) : Inv (step true true cap s e) := by
  have slots : s.todo ≤ s.free := h.slots
  cases e with
  | first =>
    simp only [step, take, if_true]
    split
    · exact h
    · next ht => rw [if_neg (show ¬ s.free = 0 by omega)]; exact ⟨h.refused, Nat.sub_le_sub_right slots 1⟩
  | second =>
    simp only [step, if_true]
    split
    · exact h
    · exact ⟨h.refused, slots⟩
  | late =>
    -- a late caller is let in only when the wait group is empty, i.e. `todo = 0`
    simp only [step, wg, if_true, Bool.true_and]
    split
    · exact h
    · next hb =>
      have hwg : s.todo = 0 ∧ s.mid = 0 := by simpa using hb
      split
      · exact h
      · exact ⟨h.refused, hwg.1 ▸ Nat.zero_le _⟩
  | reply =>
    simp only [step]
    split
    · exact ⟨h.refused, Nat.le_succ_of_le slots⟩
    · exact h

/-- **Reserve first, late callers wait: no queued query is refused**, for every number of queued queries up
to the limit of the dialed connection and every interleaving with late callers and replies. -/
theorem queued_queries_keep_their_slots (n cap : Nat) (h : n ≤ cap) (evs : List Ev) :
    (run true true cap evs (init n cap)).refused = 0 :=
  (List.foldlRecOn (motive := Inv) evs _ ⟨rfl, h⟩ fun _ hs e _ => step_inv cap hs e).refused

theorem queued_queries_keep_their_slots_src (n cap : Nat) (h : n ≤ cap) (evs : List Ev) :
    (run (Gen.Facts.c08LazyEarlyReservesBeforeDone.getD false) (Gen.Facts.c08LazyLateWaitsForEarly.getD false)
      cap evs (init n cap)).refused = 0 :=
  -- both facts evaluate to `true`
  queued_queries_keep_their_slots n cap h evs

/-- hence the query that opened the connection succeeds when the server answers, whatever else arrives -/
theorem opener_succeeds_src (n cap : Nat) (h : n ≤ cap) (evs : List Ev) :
    (pipelineLoop [openerTurn (run (Gen.Facts.c08LazyEarlyReservesBeforeDone.getD false)
      (Gen.Facts.c08LazyLateWaitsForEarly.getD false) cap evs (init n cap))]).outcome = .ok := by
  simp [openerTurn, queued_queries_keep_their_slots_src n cap h evs, pipelineLoop, loop]

/-- Both facts are needed. Leaving the wait group first: a late caller gets in between, the query that opened
the connection finds no slot (capacity 1: the schedule the harness enforces). -/
theorem done_first_loses_a_queued_query : (run false true 1 (gateSchedule false 1 1) (init 1 1)).refused = 1 := by decide
theorem done_first_opener_fails :
    (pipelineLoop [openerTurn (run false true 1 (gateSchedule false 1 1) (init 1 1))]).outcome = .errFresh := by decide
/-- late callers that do not wait: the same -/
theorem no_wait_loses_a_queued_query : (run true false 1 [.late, .first, .second] (init 1 1)).refused = 1 := by decide

/-! non-vacuity: a full queue, two late callers, the enforced schedule; a partly filled queue admits a late caller -/
example : run true true 3 (gateSchedule true 3 2) (init 3 3) = ⟨0, 0, 0, 0, 0⟩ := by decide
example : run true true 3 (gateSchedule true 2 2) (init 2 3) = ⟨0, 0, 0, 0, 1⟩ := by decide

end Handoff

/-! ### The dialing branch: a query whose own connection works succeeds, whatever went idle during its dial -/
namespace DialHandOver
open Model.C08.DialHandOver

/-- over the regenerated fact about `getNewConn`: connections that go idle while a query is dialing (dead or
alive) do not matter; the query is sent on the connection opened for it, and succeeds iff that one works -/
theorem dialing_query_uses_its_own_connection (idle : Option Bool) (own : Bool) :
    loop reuseAllow false [dialTurn (Gen.Facts.c08ReuseNewConnIsTheDialedOne.getD false) idle own] 0 0 =
      ⟨if own then .ok else .errFresh, 1, false⟩ := by
  have h : Gen.Facts.c08ReuseNewConnIsTheDialedOne.getD false = true := by decide
  rw [h]; cases idle <;> cases own <;> simp [dialTurn, loop]

theorem dialing_query_succeeds_if_its_connection_works (idle : Option Bool) :
    (loop reuseAllow false [dialTurn (Gen.Facts.c08ReuseNewConnIsTheDialedOne.getD false) idle true] 0 0).outcome = .ok := by
  rw [dialing_query_uses_its_own_connection]; rfl

/-- the fact is needed: if `getNewConn` may hand out a connection that went idle during the dial, a dead one is
reported as a failure of a new connection after one attempt, although the connection opened for the call works -/
theorem dialed_only_is_needed :
    loop reuseAllow false [dialTurn false (some false) true] 0 0 = ⟨.errFresh, 1, false⟩ := by decide

end DialHandOver

/-! The other regenerated facts are the ones the model was written from: the build fails when the source departs from them. -/
theorem facts_guard :
    Gen.Facts.c08ReuseRetryOnlyIfReused = some true ∧ Gen.Facts.c08PipelineRetryOnlyIfReusedAndCtxAlive = some true ∧
    Gen.Facts.c08ReuseNewConnFlag = some true ∧ Gen.Facts.c08PipelineNewConnFlag = some true ∧
    Gen.Facts.c08DeadConnsLeavePool = some true ∧
    Gen.Facts.c08LazyEarlyReservesBeforeDone = some true ∧ Gen.Facts.c08LazyLateWaitsForEarly = some true ∧
    Gen.Facts.c08ReuseNewConnIsTheDialedOne = some true := by decide

example : loop reuseAllow false (staleThenFresh 3) 0 0 = ⟨.ok, 4, false⟩ := by decide
example : (loop reuseAllow false (staleThenFresh 4) 0 0).outcome = .errGaveUp := by decide
example : loop pipelineAllow true [.pooled false true, .fresh true] 0 0 = ⟨.errGaveUp, 1, true⟩ := by decide
example : loop pipelineAllow true [.pooled false false, .fresh false] 0 0 = ⟨.errFresh, 2, false⟩ := by decide

end Props.C08

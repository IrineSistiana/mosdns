import MosdnsVerif.Model.C09
import MosdnsVerif.Lemmas.Lts
import MosdnsVerif.Base.Facts
import MosdnsVerif.Gen.Facts

/-!
# C09 — per-connection concurrency limits hold and capacity never leaks
-/
namespace Props.C09
open Model.C09

/-! ## established connection -/

theorem tdc_init_inv (max : Nat) : (Tdc.init max).Inv := by
  constructor <;> simp [Tdc.init]

theorem tdc_inv_step {s s' : Tdc} {l : TLabel} {o : Out} {m : Nat} (hi : s.Inv ∧ s.max = m) (hs : s.step l = some (s', o)) :
    s'.Inv ∧ s'.max = m := by
  obtain ⟨hinv, rfl⟩ := hi
  cases l <;> simp only [Tdc.step, Bool.or_eq_true, decide_eq_true_eq] at hs <;> (repeat' split at hs) <;> cases hs
  -- `reserved` moves with `h` and `queued` with `e1`; only an admitted `reserve` raises `h + e1`, and its guard, which is on
  -- `queued + reserved`, leaves room. (`omega` gets the clauses a new clause follows from and no others: it checks faster.)
  all_goals
    refine ⟨{ res := have := hinv.res; ?_, que := have := hinv.que; ?_, cnt := have := hinv.cnt; ?_
              lim := have := hinv.res; have := hinv.que; have := hinv.lim; ?_ }, rfl⟩ <;> (try simp only) <;> omega

theorem Tdc.run_eq (s : Tdc) (ls : List TLabel) : s.run ls = Lts.run (fun s l => (s.step l).map (·.1)) s ls := by
  fun_induction Tdc.run <;> simp only [Lts.run, Option.map_none, Option.map_some, *]

theorem tdc_reach {max : Nat} {ls : List TLabel} {s : Tdc} (hr : (Tdc.init max).run ls = some s) : s.Inv ∧ s.max = max :=
  Lts.run_inv_fst tdc_inv_step ⟨tdc_init_inv max, rfl⟩ (Tdc.run_eq _ _ ▸ hr)

/-- **The limit holds at every instant**: after any history, the number of
unanswered queries the connection carries (plus reservations handed out) never
exceeds its limit. -/
theorem tdc_limit (max : Nat) (ls : List TLabel) (s : Tdc) (hr : (Tdc.init max).run ls = some s) :
    s.e1 ≤ max ∧ s.h + s.e1 ≤ max := by
  obtain ⟨hi, rfl⟩ := tdc_reach hr
  have := hi.lim
  omega

/-- **No counter underflows.** -/
theorem tdc_no_underflow (max : Nat) (ls : List TLabel) (s : Tdc) (hr : (Tdc.init max).run ls = some s) :
    0 ≤ s.reserved ∧ 0 ≤ s.queued := by
  have hi := (tdc_reach hr).1
  have := hi.res
  have := hi.que
  omega

theorem tdc_free_eq {s : Tdc} (hi : s.Inv) (hc : s.closed = false) : s.free = (s.max : Int) - (s.h + s.e1) := by
  simp only [Tdc.free, hc, Bool.false_eq_true, ↓reduceIte, hi.res, hi.que]
  omega

/-- **Capacity is never lost, and never refused without reason**: after any
history of completed, failed, cancelled or withdrawn queries, a live connection
admits exactly `limit - (reservations + unanswered queries)` further queries. In
particular, with nothing outstanding it admits as many as a fresh one, and
with fewer than the limit outstanding it admits another one. -/
theorem tdc_capacity (max : Nat) (ls : List TLabel) (s : Tdc) (hr : (Tdc.init max).run ls = some s) (hc : s.closed = false) :
    s.free = (max : Int) - (s.h + s.e1) := by
  obtain ⟨hi, rfl⟩ := tdc_reach hr
  exact tdc_free_eq hi hc

theorem tdc_quiescent_like_fresh (max : Nat) (ls : List TLabel) (s : Tdc) (hr : (Tdc.init max).run ls = some s)
    (hc : s.closed = false) (hq : s.h = 0 ∧ s.e1 = 0) : s.free = (Tdc.init max).free := by
  rw [tdc_capacity max ls s hr hc, hq.1, hq.2]
  simp [Tdc.free, Tdc.init]

theorem tdc_reserve_iff_free (s : Tdc) (hc : s.closed = false) :
    (∃ s', s.step .reserve = some (s', .admitted)) ↔ 0 < s.free := by
  simp only [Tdc.step, Tdc.free, hc, Bool.false_eq_true, ↓reduceIte]
  split
  next h => exact ⟨fun ⟨_, e⟩ => (by cases e), fun _ => by omega⟩   -- refused, and the guard `h` says that nothing is free
  next h => exact ⟨fun _ => by omega, fun _ => ⟨_, rfl⟩⟩

theorem tdc_admits {s : Tdc} (hi : s.Inv) (hc : s.closed = false) (hlt : s.h + s.e1 < s.max) :
    ∃ s', s.step .reserve = some (s', .admitted) := by
  rw [tdc_reserve_iff_free s hc, tdc_free_eq hi hc]
  omega

theorem tdc_admits_below_limit (max : Nat) (ls : List TLabel) (s : Tdc) (hr : (Tdc.init max).run ls = some s)
    (hc : s.closed = false) (hlt : s.h + s.e1 < max) : ∃ s', s.step .reserve = some (s', .admitted) := by
  obtain ⟨hi, rfl⟩ := tdc_reach hr
  exact tdc_admits hi hc hlt

theorem tdc_first_reservations (s : Tdc) (hi : s.Inv) (hc : s.closed = false) (hn : s.nres < s.max) :
    ∃ s', s.step .reserve = some (s', .admitted) :=
  tdc_admits hi hc (Nat.lt_of_le_of_lt hi.cnt hn)

-- a history after which all the room is back, and one that fills the connection
example : ((Tdc.init 2).run [.reserve, .reserve, .enter true, .reply, .exit0, .withdraw]).map (fun s => (s.free, s.h, s.e1)) = some (2, 0, 0) := by decide
example : (((Tdc.init 2).run [.reserve, .reserve, .enter true]).bind (fun s => s.step .reserve)).map (·.2) = some .refused := by decide

/-- entering the exchange without releasing the reservation: the defect repaired by 3683ddd (a query in flight was counted
twice against the limit) -/
def stepDoubleCount (s : Tdc) : Tdc := { s with queued := s.queued + 1, e1 := s.e1 + 1, h := s.h - 1 }
-- witness: one query is counted twice, and a connection with limit 2 refuses its second query
example : ((Tdc.init 2).step .reserve).map (fun p => ((stepDoubleCount p.1).step .reserve).map (·.2)) = some (some .refused) := by decide

/-! ## connection that is still dialing -/

theorem lazy_init_inv (max : Nat) : (Lazy.init max).Inv := by
  constructor <;> simp [Lazy.init]

theorem lazy_inv_step {s s' : Lazy} {l : LLabel} {o : Out} {m : Nat} (hi : s.Inv ∧ s.max = m) (hs : s.step l = some (s', o)) :
    s'.Inv ∧ s'.max = m := by
  obtain ⟨hinv, rfl⟩ := hi
  cases l <;> simp only [Lazy.step] at hs
  case withdraw | enter | ctxDone | finish =>
    -- `dial` stays, so the conditional clauses keep their premises; each clause is kept on its own, by counting, and `omega`
    -- is handed that clause alone (with all six in its context it is a third slower to check)
    split at hs <;> cases hs
    refine ⟨{ res := have := hinv.res; ?_, wgGe := have := hinv.wgGe; ?_, lim := have := hinv.lim; ?_, rer := have := hinv.rer; ?_
              wgOk := fun hx => have := hinv.wgOk hx; ?_
              exDial := fun hx => have := hinv.exDial hx; ?_ }, rfl⟩ <;> simp only <;> omega
  case dialOk | dialFail =>
    -- the counters stay; the dial was `dialing`, under which both conditional clauses held
    obtain ⟨hd, hs⟩ := Option.ite_none_right_eq_some.mp hs
    cases hs
    exact ⟨{ res := hinv.res, wgOk := fun _ => hinv.wgOk (by simp [hd]), wgGe := hinv.wgGe, lim := hinv.lim
             exDial := fun hx => (by cases hx), rer := hinv.rer }, rfl⟩
  case reserve =>
    cases hd : s.dial <;> simp only [hd] at hs
    case dialing =>
      split at hs <;> cases hs
      · exact ⟨hinv, rfl⟩
      · -- admitted: the guard and `res` leave room, and while dialing nobody is through or has re-reserved
        have := hinv.res
        have := hinv.wgGe
        have := hinv.wgOk (by simp [hd])
        have := hinv.exDial hd
        refine ⟨{ res := ?_, wgOk := fun _ => ?_, wgGe := ?_, lim := ?_, exDial := fun _ => ?_, rer := ?_ }, rfl⟩ <;> simp only <;> omega
    case ok => split at hs <;> cases hs; exact ⟨hinv, rfl⟩
    case failed => cases hs; exact ⟨hinv, rfl⟩
  case proceed =>
    obtain ⟨hew, hs⟩ := Option.ite_none_left_eq_some.mp hs
    cases hd : s.dial <;> simp only [hd] at hs <;> cases hs
    case ok =>
      refine ⟨{ res := have := hinv.res; ?_, wgOk := fun _ => have := hinv.wgOk (by simp [hd]); ?_, wgGe := have := hinv.wgGe; ?_
                lim := have := hinv.lim; ?_, exDial := nofun, rer := have := hinv.rer; ?_ }, rfl⟩ <;> simp only <;> omega
    case failed =>
      -- the wait group is not released, and nobody waits on it after a failed dial
      refine ⟨{ res := have := hinv.res; ?_, wgOk := fun hx => absurd rfl hx, wgGe := have := hinv.wgGe; ?_
                lim := have := hinv.lim; ?_, exDial := nofun, rer := have := hinv.rer; ?_ }, rfl⟩ <;> simp only <;> omega

theorem Lazy.run_eq (s : Lazy) (ls : List LLabel) : s.run ls = Lts.run (fun s l => (s.step l).map (·.1)) s ls := by
  fun_induction Lazy.run <;> simp only [Lts.run, Option.map_none, Option.map_some, *]

theorem lazy_reach {max : Nat} {ls : List LLabel} {s : Lazy} (hr : (Lazy.init max).run ls = some s) : s.Inv ∧ s.max = max :=
  Lts.run_inv_fst lazy_inv_step ⟨lazy_init_inv max, rfl⟩ (Lazy.run_eq _ _ ▸ hr)

/-- **The queue limit of a dialing connection holds, no counter (nor the wait
group) goes negative, and capacity is not lost** by cancelled or withdrawn
queued queries: while dialing, the connection admits exactly
`limit - queued` further queries. -/
theorem lazy_limit_and_capacity (max : Nat) (ls : List LLabel) (s : Lazy) (hr : (Lazy.init max).run ls = some s) :
    s.eh + s.ew ≤ max ∧ 0 ≤ s.reserved ∧ 0 ≤ s.wg ∧
    (s.dial = .dialing → s.free = (max : Int) - (s.eh + s.ew)) := by
  obtain ⟨hi, rfl⟩ := lazy_reach hr
  have := hi.res
  have := hi.wgGe
  have := hi.lim
  refine ⟨by omega, by omega, by omega, fun hd => ?_⟩
  have := hi.exDial hd
  simp only [Lazy.free]
  omega

theorem lazy_reserve_iff_free (s : Lazy) (hd : s.dial = .dialing) :
    (∃ s', s.step .reserve = some (s', .admitted)) ↔ 0 < s.free := by
  simp only [Lazy.step, hd, Lazy.free]
  split
  next h => exact ⟨fun ⟨_, e⟩ => (by cases e), fun _ => by omega⟩   -- refused, and the guard `h` says that nothing is free
  next h => exact ⟨fun _ => by omega, fun _ => ⟨_, rfl⟩⟩

-- a cancelled and a withdrawn early query give their room back
example : ((Lazy.init 2).run [.reserve, .reserve, .enter, .ctxDone, .withdraw]).map (fun s => (s.free, s.wg)) = some (2, 0) := by decide

/-! ## queued queries are not refused once the dial succeeded -/

/-- The wrapper and the connection it becomes. The last clause carries the argument of `early_not_refused`, which is
counting. While early callers remain, no late caller has got through the wrapper (`reserve` passes only with `wg = 0`,
and `eh + ew ≤ wg`), so every reservation the connection has admitted (`nres`) is the re-reservation of an early caller
(`rereserved`). Those and the early callers that remain are together at most the queue limit (`Lazy.Inv.rer`). With
`lz.max ≤ tdc.max` the connection has then admitted fewer than its limit, and what it carries is at most what it ever
admitted (`Tdc.Inv.cnt`): `tdc_first_reservations` admits the next one. -/
def SysInv (s : Sys) : Prop :=
  s.lz.Inv ∧ s.tdc.Inv ∧ (s.lz.dial ≠ .ok → s.tdc = Tdc.init s.tdc.max) ∧
  (0 < s.lz.eh + s.lz.ew → s.tdc.nres ≤ s.lz.rereserved)

theorem sys_init_inv (a b : Nat) : SysInv (Sys.init a b) := by
  refine ⟨lazy_init_inv a, tdc_init_inv b, fun _ => rfl, ?_⟩
  simp [Sys.init, Lazy.init]

/-- **Once the dial succeeds with an equal (or larger) limit, no query that was
queued while dialing is refused by a live connection**, in every interleaving
of early callers, late callers, the reader and cancellations. -/
theorem early_not_refused (s : Sys) (hi : SysInv s) (hle : s.lz.max ≤ s.tdc.max)
    (hok : s.lz.dial = .ok) (hw : 0 < s.lz.ew) (hc : s.tdc.closed = false) :
    ∃ s', s.step (.lz .proceed) = some (s', .admitted) := by
  obtain ⟨hl, ht, _, hn⟩ := hi
  have hn' := hn (by omega)
  have hrer := hl.rer
  obtain ⟨t', ht'⟩ := tdc_first_reservations s.tdc ht hc (by omega)
  have hne : ¬ s.lz.ew = 0 := by omega
  simp only [Sys.step, Lazy.step, hok, hne, ↓reduceIte, ht']
  exact ⟨_, rfl⟩

/-- A step of the wrapper after the dial has succeeded: the dial stays `ok`, the early callers that remain (`eh + ew`) get no
more, `proceed` and nothing else raises `rereserved`, by one, and a `reserve` gets through only with the wait group at zero. -/
theorem lazy_step_of_dial_ok {s s' : Lazy} {l : LLabel} {o : Out} (hd : s.dial = .ok) (hs : s.step l = some (s', o)) :
    s'.dial = .ok ∧ s'.eh + s'.ew ≤ s.eh + s.ew ∧ s'.rereserved = s.rereserved + (if l = .proceed then 1 else 0) ∧
    (l = .reserve → s.wg = 0) := by
  cases l <;> simp only [Lazy.step, hd, reduceCtorEq, ↓reduceIte, Option.ite_none_left_eq_some,
    Option.ite_none_right_eq_some, Option.some.injEq, Prod.mk.injEq] at hs
  all_goals
    obtain ⟨hg, rfl, rfl⟩ := hs
    simp [hd]
  -- `simp` leaves two goals: for `reserve` that `s.wg = 0`, which is the guard, and for `enter` that
  -- `s.eh - 1 + (s.ew + 1) ≤ s.eh + s.ew`, where the guard is `¬ s.eh = 0`
  case reserve => exact hg
  case enter => omega

theorem tdc_step_nres {s s' : Tdc} {l : TLabel} {o : Out} (hs : s.step l = some (s', o)) :
    s'.nres ≤ s.nres + 1 ∧ (l ≠ .reserve → s'.nres = s.nres) := by
  cases l <;> simp only [Tdc.step] at hs <;> (repeat' split at hs) <;> cases hs <;> simp

/-- A wrapper step of the composed system is that step of the wrapper, and the real connection takes a `reserve` with it, which
gives the output, exactly if the label is `proceed` or `reserve` and the dial has succeeded; else it stays as it is. -/
theorem sys_lz_step {s s' : Sys} {l : LLabel} {o : Out} (hs : s.step (.lz l) = some (s', o)) :
    ∃ o', s.lz.step l = some (s'.lz, o') ∧
      (((l = .proceed ∨ l = .reserve) ∧ s.lz.dial = .ok ∧ s.tdc.step .reserve = some (s'.tdc, o)) ∨
        (¬ ((l = .proceed ∨ l = .reserve) ∧ s.lz.dial = .ok) ∧ s'.tdc = s.tdc)) := by
  cases hls : s.lz.step l with
  | none => simp [Sys.step, hls] at hs
  | some p =>
    obtain ⟨lz', o'⟩ := p
    simp only [Sys.step, hls] at hs
    split at hs
    next hok =>
      cases hst : s.tdc.step .reserve with
      | none => simp [hst] at hs
      | some q =>
        simp only [hst, Option.some.injEq, Prod.mk.injEq] at hs
        obtain ⟨rfl, rfl⟩ := hs
        exact ⟨o', rfl, .inl ⟨.inl rfl, hok, rfl⟩⟩
    next hok =>
      cases hst : s.tdc.step .reserve with
      | none => simp [hst] at hs
      | some q =>
        simp only [hst, Option.some.injEq, Prod.mk.injEq] at hs
        obtain ⟨rfl, rfl⟩ := hs
        exact ⟨o', rfl, .inl ⟨.inr rfl, hok, rfl⟩⟩
    next hnp hnr =>   -- the arm `_, _`: `hnp` and `hnr` say that the arms for `proceed` and `reserve` did not match
      simp only [Option.some.injEq, Prod.mk.injEq] at hs
      obtain ⟨rfl, rfl⟩ := hs
      exact ⟨_, rfl, .inr ⟨fun ⟨hl, hok⟩ => hl.elim (hnp · hok) (hnr · hok), rfl⟩⟩

theorem sys_inv_step {s s' : Sys} {l : SLabel} {o : Out} {a b : Nat} (hi : SysInv s ∧ s.lz.max = a ∧ s.tdc.max = b)
    (hs : s.step l = some (s', o)) : SysInv s' ∧ s'.lz.max = a ∧ s'.tdc.max = b := by
  obtain ⟨⟨hl, ht, hfresh, hn⟩, ha, hb⟩ := hi
  cases l with
  | tdc tl =>
    -- a step of the real connection: the dial has succeeded and the step is no `reserve`, so `nres` stays
    simp only [Sys.step, Option.ite_none_left_eq_some, not_or, ne_eq, Decidable.not_not] at hs
    obtain ⟨⟨hnr, hok⟩, hs⟩ := hs
    cases hst : s.tdc.step tl with
    | none => simp [hst] at hs
    | some p =>
      simp only [hst, Option.some.injEq, Prod.mk.injEq] at hs
      obtain ⟨rfl, rfl⟩ := hs
      have h1 := tdc_inv_step ⟨ht, hb⟩ hst
      exact ⟨⟨hl, h1.1, fun hx => absurd hok hx, fun hp => (tdc_step_nres hst).2 hnr ▸ hn hp⟩, ha, h1.2⟩
  | lz ll =>
    obtain ⟨o', hls, ⟨hll, hok, hst⟩ | ⟨-, htdc⟩⟩ := sys_lz_step hs
    all_goals have h1 := lazy_inv_step ⟨hl, ha⟩ hls
    · have h2 := tdc_inv_step ⟨ht, hb⟩ hst
      have h3 := (tdc_step_nres hst).1
      obtain ⟨hd', hsum, hrer, hres⟩ := lazy_step_of_dial_ok hok hls
      refine ⟨⟨h1.1, h2.1, fun hx => absurd hd' hx, fun hp => ?_⟩, h1.2, h2.2⟩
      have hge := hl.wgGe
      rcases hll with rfl | rfl
      · -- `proceed` raises `rereserved` with `nres`
        have := hn (by omega)
        simp only [if_true] at hrer
        omega
      · -- a late `reserve` passes only with `wg = 0`, that is (`wgGe`) with no early caller left: `hp` is void
        have := hres rfl
        omega
    · -- every other step leaves the real connection alone
      unfold SysInv
      rw [htdc]
      by_cases hok : s.lz.dial = .ok
      · obtain ⟨hd', hsum, hrer, -⟩ := lazy_step_of_dial_ok hok hls
        refine ⟨⟨h1.1, ht, fun hx => absurd hd' hx, fun hq => ?_⟩, h1.2, hb⟩
        have : s.lz.rereserved ≤ s'.lz.rereserved := hrer ▸ Nat.le_add_right _ _
        have := hn (by omega)
        omega
      · -- and before a successful dial that connection is as it was made, with no reservation counted
        have hinit := hfresh hok
        have h0 : s.tdc.nres = 0 := by rw [hinit]; rfl
        exact ⟨⟨h1.1, ht, fun _ => hinit, fun _ => (show s.tdc.nres ≤ _ from h0 ▸ Nat.zero_le _)⟩, h1.2, hb⟩

theorem Sys.run_eq (s : Sys) (ls : List SLabel) : s.run ls = Lts.run (fun s l => (s.step l).map (·.1)) s ls := by
  fun_induction Sys.run <;> simp only [Lts.run, Option.map_none, Option.map_some, *]

theorem sys_reach {a b : Nat} {ls : List SLabel} {s : Sys} (hr : (Sys.init a b).run ls = some s) :
    SysInv s ∧ s.lz.max = a ∧ s.tdc.max = b :=
  Lts.run_inv_fst sys_inv_step ⟨sys_init_inv a b, rfl, rfl⟩ (Sys.run_eq _ _ ▸ hr)

/-- the statement over histories: from a connection that starts dialing with
queue limit `a` and becomes a connection with limit `b ≥ a`, after every
history, a parked early caller that sees the successful dial is admitted by the
live connection. -/
theorem queued_while_dialing_not_refused (a b : Nat) (hab : a ≤ b) (ls : List SLabel) (s : Sys)
    (hr : (Sys.init a b).run ls = some s) (hok : s.lz.dial = .ok) (hw : 0 < s.lz.ew) (hc : s.tdc.closed = false) :
    ∃ s', s.step (.lz .proceed) = some (s', .admitted) := by
  obtain ⟨hi, rfl, rfl⟩ := sys_reach hr
  exact early_not_refused s hi hab hok hw hc

-- the hypotheses of `queued_while_dialing_not_refused` are met: the dial succeeded, one early caller is through, one is parked
example : ((Sys.init 2 2).run [.lz .reserve, .lz .reserve, .lz .enter, .lz .enter, .lz .dialOk, .lz .proceed]).map
    (fun s => (s.lz.dial, s.lz.ew, s.tdc.closed, s.tdc.nres)) = some (.ok, 1, false, 1) := by decide

/-! ## why the early caller must re-reserve BEFORE it leaves the wait group

`proceed` is one step of the model because `c09LazyEarlyExchange` finds
`dc.ReserveNewQuery()` before `earlyReserveCallWg.Done()` in the dial arm: until
`Done` no late caller gets past `Wait`. If `Done` came first, a late caller
could take the slot in between: -/

/-- the wait-group half of `proceed` alone -/
def doneOnly (s : Sys) : Sys := { s with lz := { s.lz with wg := s.lz.wg - 1, ew := s.lz.ew - 1, ex := s.lz.ex + 1 } }

/-- witness (queue limit 1, connection limit 1, one queued query, dial ok): after
`Done` alone the late caller is admitted by the connection, and the re-reservation
of the queued query is refused. -/
example : ((Sys.init 1 1).run [.lz .reserve, .lz .enter, .lz .dialOk]).map (fun s =>
    ((doneOnly s).step (.lz .reserve)).map (fun p => (p.2, (p.1.tdc.step .reserve).map (·.2)))) =
    some (some (.admitted, some .refused)) := by decide

/-! ## the transport's pick among its connections -/

theorem pickGo_accounts (maxAttempt : Nat) (rs : List Nat) : ∀ (att i : Nat),
    total (pickGo true maxAttempt att i none rs).1 + handed (pickGo true maxAttempt att i none rs).2 = total rs := by
  induction rs with
  | nil => intro _ _; rfl
  | cons r rs ih =>
    intro att i
    by_cases hr : r = 0
    · by_cases ha : att + 1 > maxAttempt
      · simp [pickGo, hr, ha, handed]
      · simp [pickGo, hr, ha, total, ih]
    · -- a connection with room: one reservation is taken from it and handed out
      simp only [pickGo, hr, ↓reduceIte, total, handed]
      show r - 1 + total rs + 1 = r + total rs
      omega

/-- with `stop`, the loop takes exactly the reservation it hands out: nothing is
taken when it returns none, and otherwise exactly one, on the connection named
by the result, which had room. -/
theorem pickGo_stop (maxAttempt : Nat) (rs : List Nat) : ∀ (att i : Nat),
    ((pickGo true maxAttempt att i none rs).2 = none → (pickGo true maxAttempt att i none rs).1 = rs) ∧
    (∀ k, (pickGo true maxAttempt att i none rs).2 = some k →
      ∃ j, k = i + j ∧ j < rs.length ∧ 0 < rs.getD j 0 ∧
        (pickGo true maxAttempt att i none rs).1 = rs.set j (rs.getD j 0 - 1)) := by
  induction rs with
  | nil => intro att i; simp [pickGo]
  | cons r rs ih =>
    intro att i
    by_cases hr : r = 0
    · by_cases ha : att + 1 > maxAttempt
      · simp [pickGo, hr, ha]
      · obtain ⟨ih1, ih2⟩ := ih (att + 1) (i + 1)
        simp only [pickGo, hr, ha, ↓reduceIte]
        refine ⟨fun h => (by rw [ih1 h]), fun k hk => ?_⟩
        obtain ⟨j, hj1, hj2, hj3, hj4⟩ := ih2 k hk
        refine ⟨j + 1, by omega, by simp; omega, by simpa using hj3, ?_⟩
        simp only [List.getD_cons_succ, List.set_cons_succ]
        rw [hj4]
    · simp only [pickGo, hr, ↓reduceIte]
      refine ⟨fun h => (by cases h), fun k hk => ?_⟩
      simp only [Option.some.injEq] at hk
      exact ⟨0, by omega, by simp, by simp; omega, by simp⟩

/-- **Every reservation the transport takes is the one it hands to the caller**:
the room lost over all connections equals the number of reservations returned
(0 or 1), for every visiting order and every attempt bound. -/
theorem pick_accounts (maxAttempt : Nat) (rooms : List Nat) :
    total (pick true maxAttempt rooms).1 + handed (pick true maxAttempt rooms).2 = total rooms :=
  pickGo_accounts maxAttempt rooms 0 0

/-- the transport dials a new connection only if the connections it visited all
refused (for pools of at most `maxAttempt` connections: all of them). -/
theorem pickGo_none_all_full (maxAttempt : Nat) (rs : List Nat) : ∀ (att i : Nat), att + rs.length ≤ maxAttempt →
    (pickGo true maxAttempt att i none rs).2 = none → ∀ r ∈ rs, r = 0 := by
  induction rs with
  | nil => intro att i _ _ r hr; cases hr
  | cons r rs ih =>
    intro att i hlen hnone x hx
    simp only [List.length_cons] at hlen
    by_cases hr : r = 0
    · have ha : ¬ att + 1 > maxAttempt := by omega
      simp only [pickGo, hr, ha, ↓reduceIte] at hnone
      cases hx with
      | head => exact hr
      | tail _ hx' => exact ih (att + 1) (i + 1) (by omega) hnone x hx'
    · simp [pickGo, hr] at hnone

/-- any number of queries one after the other, none finished in between: the
reservations handed out and the room left add up to the room there was. -/
theorem pickN_accounts (maxAttempt : Nat) : ∀ (n : Nat) (rooms : List Nat),
    (pickN true maxAttempt n rooms).1 + total (pickN true maxAttempt n rooms).2 = total rooms := by
  intro n rooms
  fun_induction pickN true maxAttempt n rooms with
  | case1 rooms => simp                     -- no query
  | case2 n rooms rooms' k hp ih =>         -- the first query gets a reservation (`hp`)
    have := pick_accounts maxAttempt rooms; simp only [hp, handed] at this ⊢; omega
  | case3 n rooms rooms' hp ih =>           -- the first query gets none
    have := pick_accounts maxAttempt rooms; simp only [hp, handed] at this; omega

/-- the same for the loop as regenerated -/
theorem pipeline_pick_accounts (maxAttempt n : Nat) (rooms : List Nat) :
    let stop := Gen.Facts.c09PipelinePickStopsAtFirstReservation == some true
    total (pick stop maxAttempt rooms).1 + handed (pick stop maxAttempt rooms).2 = total rooms ∧
    (pickN stop maxAttempt n rooms).1 + total (pickN stop maxAttempt n rooms).2 = total rooms :=
  ⟨pick_accounts maxAttempt rooms, pickN_accounts maxAttempt n rooms⟩   -- the fact evaluates to `true`

/-- witness: a loop that goes on after its first reservation (keeping the later
one) takes two reservations and hands out one; four such queries use up the
room of two connections with limit 4 that carry nothing. -/
example : pick false 16 [1, 1] = ([0, 0], some 1) ∧ pickN false 16 8 [4, 4] = (4, [0, 0]) ∧ pickN true 16 8 [4, 4] = (8, [0, 0]) := by decide

/-! ## non-pipelined reused connection -/

/-- `Reuse.inv` read as propositions. -/
theorem reuse_inv_iff (s : Reuse) : s.inv = true ↔
    s.outstanding = (if s.waiting then 1 else 0) ∧ (s.idle = true → s.holder = false ∧ s.waiting = false) ∧
      (s.holder = true → s.waiting = false) := by
  obtain ⟨idle, holder, waiting, closed, n⟩ := s
  cases idle <;> cases holder <;> cases waiting <;> simp [Reuse.inv] <;> omega

theorem reuse_inv_step {s s' : Reuse} {l : RLabel} (hi : s.inv = true) (hs : s.step l = some s') : s'.inv = true := by
  rw [reuse_inv_iff] at hi ⊢
  obtain ⟨hn, hidle, hhold⟩ := hi
  cases l <;> simp only [Reuse.step, Option.ite_none_right_eq_some, Option.ite_none_left_eq_some, Option.some.injEq,
    Bool.and_eq_true, Bool.not_eq_true'] at hs
  case take =>
    -- taken from the idle set, where it awaited nothing
    obtain ⟨⟨hid, -⟩, rfl⟩ := hs
    exact ⟨hn, nofun, fun _ => (hidle hid).2⟩
  case send =>
    -- the holder had not written: `outstanding` goes from 0 to 1
    obtain ⟨⟨hh, -⟩, rfl⟩ := hs
    have hw := hhold hh
    exact ⟨by simp [hn, hw], fun h => by simp [(hidle h).1] at hh, nofun⟩
  case reply =>
    obtain ⟨-, hs⟩ := hs
    split at hs <;> cases hs
    next hw =>
      -- the awaited reply: back to 0, and a connection that awaited a reply had no holder
      exact ⟨by simp [hn, hw], fun _ => ⟨Bool.eq_false_iff.mpr fun hh => by simp [hhold hh] at hw, rfl⟩, fun _ => rfl⟩
    next => exact ⟨hn, nofun, hhold⟩   -- an unexpected reply closes the connection and takes it out of the idle set
  case close =>
    obtain ⟨-, rfl⟩ := hs
    exact ⟨hn, nofun, hhold⟩

theorem reuse_inv_sound (s : Reuse) (hi : s.inv = true) :
    s.outstanding ≤ 1 ∧ (s.idle = true → s.outstanding = 0 ∧ s.holder = false) := by
  obtain ⟨hn, hidle, -⟩ := (reuse_inv_iff s).mp hi
  exact ⟨by rw [hn]; split <;> decide, fun h => ⟨by simp [hn, (hidle h).2], (hidle h).1⟩⟩

theorem Reuse.run_eq (s : Reuse) (ls : List RLabel) : s.run ls = Lts.run Reuse.step s ls := by
  fun_induction Reuse.run <;> simp only [Lts.run, *]

/-- **A non-pipelined connection never carries more than one unanswered
query**, and it is in the idle set only while it carries none and nobody holds it. -/
theorem reuse_at_most_one (ls : List RLabel) : ∀ (s s' : Reuse), s.inv = true → s.run ls = some s' →
    s'.outstanding ≤ 1 ∧ (s'.idle = true → s'.outstanding = 0 ∧ s'.holder = false) :=
  fun s s' hi hr => reuse_inv_sound s' (Lts.run_inv (P := (·.inv = true)) reuse_inv_step hi (Reuse.run_eq s ls ▸ hr))

example : (({} : Reuse).run [.send, .reply, .take, .send]).map (fun s => (s.outstanding, s.idle)) = some (1, false) := by decide

/-- The regenerated facts the models above were written from (the comparison and the shape of the two `ReserveNewQuery`,
the release of a reservation on every way out, the sites that move each counter and the wait group, re-reserving before
`Done`, the transport's pick loop, the limits `NewUpstream` configures). `decide` fails, and with it the build, once the
source says otherwise. -/
theorem facts_guard :
    Gen.Facts.c09TdcReserveCmp = .ge ∧ Gen.Facts.c09TdcReserveShape = some true ∧
    Gen.Facts.c09AddQueueReleasesReservationOnce = some true ∧ Gen.Facts.c09ExchangeEntry = some true ∧
    Gen.Facts.c09TdcWithdrawOnce = some true ∧
    Gen.Facts.c09TdcReservedIncSites = some 1 ∧ Gen.Facts.c09TdcReservedDecSites = some 2 ∧ Gen.Facts.c09TdcQueueDeleteSites = some 2 ∧
    Gen.Facts.c09LazyReserveCmp = .ge ∧ Gen.Facts.c09LazyReserveShape = some true ∧
    Gen.Facts.c09LazyEarlyExchange = some true ∧ Gen.Facts.c09LazyWithdrawOnce = some true ∧
    Gen.Facts.c09LazyReservedIncSites = some 1 ∧ Gen.Facts.c09LazyReservedDecSites = some 2 ∧
    Gen.Facts.c09LazyWgDoneSites = some 3 ∧ Gen.Facts.c09LazyWgAddSites = some 1 ∧
    Gen.Facts.c09PipelineUsesEachReservationOnce = some true ∧
    Gen.Facts.c09PipelinePickStopsAtFirstReservation = some true ∧ Gen.Facts.c09PipelineMaxReserveAttempt = some 16 ∧
    Gen.Facts.c09LimitsComeFromOpts = some true ∧ Gen.Facts.c01AllocSkipsIdsInUse = some true ∧
    Gen.Facts.c09UpstreamPipelineLimits = some [(4096, 4096), (64, 64), (64, 64)] := by decide

/-! ## the limits as `NewUpstream` configures them

`c09UpstreamPipelineLimits` lists, for every `PipelineTransport` that `NewUpstream`
builds over a `TraditionalDnsConn` (udp, tcp, tls), the pair (limit while dialing,
limit of the dialed connection), each resolved from the option literals to a
number (`c09LimitsComeFromOpts`: the constructors install exactly these). -/

/-- **As configured, the limit of the dialed connection equals the limit while
dialing**, for every pipelining upstream. -/
theorem upstream_limits_equal :
    ∀ p ∈ Gen.Facts.c09UpstreamPipelineLimits.getD [], p.1 = p.2 := by decide

/-- the hypothesis `a ≤ b` of `queued_while_dialing_not_refused` holds for the
upstreams as built: a query queued while one of their connections was dialing is
admitted by the live connection once the dial succeeded. -/
theorem upstream_queued_while_dialing_not_refused (p : Nat × Nat) (hp : p ∈ Gen.Facts.c09UpstreamPipelineLimits.getD [])
    (ls : List SLabel) (s : Sys) (hr : (Sys.init p.1 p.2).run ls = some s) (hok : s.lz.dial = .ok) (hw : 0 < s.lz.ew)
    (hc : s.tdc.closed = false) : ∃ s', s.step (.lz .proceed) = some (s', .admitted) :=
  queued_while_dialing_not_refused p.1 p.2 (Nat.le_of_eq (upstream_limits_equal p hp)) ls s hr hok hw hc

/-- witness: a connection limit below the queue limit (32 under a queue of 64, what an
omitted `MaxConcurrentQuery` gives): with the queue full, the 33rd queued query is refused
by the live connection. -/
example : ((Sys.init 64 32).run ((List.replicate 64 (.lz .reserve)) ++ (List.replicate 64 (.lz .enter)) ++ [.lz .dialOk] ++
    List.replicate 32 (.lz .proceed))).bind (fun s => (s.step (.lz .proceed)).map (·.2)) = some .refused := by decide

/-! ## why every reservation must be used: a dropped one is capacity lost for good

`c09PipelineUsesEachReservationOnce` (and the harness callers) discharge the
assumption "every reservation is handed to ExchangeReserved or WithdrawReserved".
Without it: -/

/-- While a reservation is held and never used, a live connection, even one with nothing
unanswered, admits fewer queries than a fresh one. -/
theorem dropped_reservation_loses_capacity (max : Nat) (ls : List TLabel) (s : Tdc) (hr : (Tdc.init max).run ls = some s)
    (hc : s.closed = false) (hh : 0 < s.h) : s.free < (Tdc.init max).free := by
  rw [tdc_capacity max ls s hr hc]
  simp only [Tdc.free, Tdc.init, Bool.false_eq_true, ↓reduceIte]
  omega

/-- While an early reservation is held and never used, no reservation gets through
the wrapper after the dial succeeded (the late caller waits for the early ones for ever). -/
theorem dropped_early_reservation_blocks (s : Lazy) (hi : s.Inv) (hok : s.dial = .ok) (hh : 0 < s.eh) :
    s.step .reserve = none := by
  have := hi.wgGe
  have hne : ¬ s.wg = 0 := by omega
  simp [Lazy.step, hok, hne]

/-! ## why the refusal test and the increment must be ONE critical section

`Tdc.step · .reserve` is one atomic step because `c09TdcReserveShape` finds the
test and the `reservedQuery++` between `queueMu.Lock()` and the deferred
`Unlock`. If the test is made on a snapshot (e.g. under the read lock) and the
increment is a later step, callers that test at the same moment are all
admitted: -/

/-- the refusal test of `ReserveNewQuery` on a snapshot of the counters -/
def passesTest (s : Tdc) : Bool := !s.closed && decide (s.queued + s.reserved < (s.max : Int))

/-- the increment alone -/
def commit (s : Tdc) : Tdc := { s with reserved := s.reserved + 1, h := s.h + 1, nres := s.nres + 1 }

def commitN : Nat → Tdc → Tdc
  | 0, s => s
  | n + 1, s => commitN n (commit s)

theorem commitN_fields (n : Nat) : ∀ s : Tdc, (commitN n s).h = s.h + n ∧ (commitN n s).reserved = s.reserved + n ∧
    (commitN n s).e1 = s.e1 ∧ (commitN n s).max = s.max := by
  induction n with
  | zero => intro s; simp [commitN]
  | succ n ih =>
    intro s
    obtain ⟨h1, h2, h3, h4⟩ := ih (commit s)
    rw [commitN, h1, h2, h3, h4]
    simp only [commit, and_true]
    omega

/-- the atomic step is test-then-increment on the SAME state -/
theorem reserve_is_test_and_commit (s : Tdc) (hc : s.closed = false) :
    s.step .reserve = if passesTest s then some (commit s, .admitted) else some (s, .refused) := by
  by_cases h : s.queued + s.reserved ≥ (s.max : Int)
  · have : ¬ (s.queued + s.reserved < (s.max : Int)) := by omega
    simp [Tdc.step, passesTest, hc, h, this]
  · have : s.queued + s.reserved < (s.max : Int) := by omega
    simp [Tdc.step, passesTest, hc, h, this, commit]

/-- **witness (check-then-act)**: on any live connection with room for at least
one more query, `k` callers that all pass the test on the same snapshot and
increment afterwards leave it with `k` more reservations: for every `k` above
the room that was left the invariant `reservations + unanswered ≤ limit` of
`tdc_limit` is broken. -/
theorem split_reserve_exceeds_limit (s : Tdc) (hi : s.Inv) (k : Nat) (hk : s.max < s.h + s.e1 + k) :
    (0 < k → s.closed = false → s.h + s.e1 < s.max → passesTest s = true) ∧
    (commitN k s).max < (commitN k s).h + (commitN k s).e1 ∧ ¬ (commitN k s).Inv := by
  obtain ⟨h1, _, h3, h4⟩ := commitN_fields k s
  refine ⟨?_, ?_, ?_⟩
  · intro _ hc hlt
    have hr := hi.res
    have hq := hi.que
    have : s.queued + s.reserved < (s.max : Int) := by omega
    simp [passesTest, hc, this]
  · rw [h1, h3, h4]; omega
  · intro hinv
    have := hinv.lim
    rw [h1, h3, h4] at this
    omega

example : passesTest (Tdc.init 2) = true ∧ (commitN 3 (Tdc.init 2)).h = 3 := by decide

end Props.C09

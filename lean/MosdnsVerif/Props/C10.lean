import MosdnsVerif.Model.C10
import MosdnsVerif.Lemmas.Lts
import MosdnsVerif.Base.Facts
import MosdnsVerif.Gen.Facts

/-!
# C10 — cached answers are isolated from every caller's mutations

With a deep copy at every site (`allDeep`) a step does one of four things to the state (`Change`). `St.Inv` (an entry
reads as when it was stored, and no caller holds one of its locations) and `St.Disj` are kept per case of `Change`,
and a hit serves a fresh copy of an entry; the runs follow by `Lts.runOut_inv`.
-/
namespace Props.C10
open Model.C10

theorem alloc_spec : ∀ (vals : List Nat) (h : Heap),
    (h.alloc vals).1.next = h.next + vals.length ∧
    (∀ l ∈ (h.alloc vals).2, h.next ≤ l ∧ l < (h.alloc vals).1.next) ∧
    (h.alloc vals).1.read (h.alloc vals).2 = vals ∧
    (∀ x, x < h.next → (h.alloc vals).1.cells x = h.cells x) := by
  intro vals
  induction vals with
  | nil => intro h; simp [Heap.alloc, Heap.read]
  | cons v vs ih =>
    intro h
    -- `v` goes into cell `h.next`, which lies below the `next` of the heap the rest is allocated in: the rest leaves it alone (`a4`)
    obtain ⟨a1, a2, a3, a4⟩ := ih ⟨fun x => if x = h.next then v else h.cells x, h.next + 1⟩
    dsimp only [Heap.read] at a1 a2 a3 a4
    simp only [Heap.alloc, Heap.read, List.length_cons, List.mem_cons, forall_eq_or_imp, List.map_cons, a1, a3,
      a4 h.next (Nat.lt_succ_self _)]
    refine ⟨by omega, ⟨by omega, fun l hl => by have := a2 l hl; omega⟩, by simp, fun x hx => ?_⟩
    rw [a4 x (by omega), if_neg (by omega)]

theorem alloc_fresh {h : Heap} {vals : List Nat} {l : Nat} (hl : l ∈ (h.alloc vals).2) :
    h.next ≤ l ∧ l < (h.alloc vals).1.next :=
  (alloc_spec vals h).2.1 l hl

theorem read_alloc (h : Heap) (vals : List Nat) : (h.alloc vals).1.read (h.alloc vals).2 = vals :=
  (alloc_spec vals h).2.2.1

theorem read_alloc_old {h : Heap} {vals : List Nat} {ls : List Nat} (hl : ∀ l ∈ ls, l < h.next) :
    (h.alloc vals).1.read ls = h.read ls :=
  List.map_congr_left fun l hm => (alloc_spec vals h).2.2.2 l (hl l hm)

theorem read_write_other {h : Heap} {l v : Nat} {ls : List Nat} (hl : l ∉ ls) : (h.write l v).read ls = h.read ls :=
  List.map_congr_left fun x hx => if_neg fun (e : x = l) => hl (e ▸ hx)

theorem init_inv : ({} : St).Inv := ⟨nofun, nofun⟩

/-- Only `write` says which operation it was: `step_keeps_held` has to tell a write through another handle from one
through the handle in question. -/
inductive Change (s : St) : Op → St → Prop
  | skip {op} : Change s op s
  | give {op} (vals) :      -- a caller gets a fresh handle (produce, hit)
      Change s op { s with heap := (s.heap.alloc vals).1, callers := s.callers ++ [(s.heap.alloc vals).2] }
  | keep {op} (k vals) :    -- the cache gets a fresh copy (store)
      Change s op { s with heap := (s.heap.alloc vals).1, cache := ⟨k, (s.heap.alloc vals).2, vals⟩ :: s.cache }
  | write {c i ls l} (v) : s.callers[c]? = some ls → ls[i]? = some l →
      Change s (.mutate c i v) { s with heap := s.heap.write l v }

theorem step_change (s : St) (op : Op) : Change s op (s.step allDeep op).1 := by
  cases op with
  | produce vals => exact .give vals
  | store k c =>
    simp only [St.step]
    split
    · exact .skip
    · exact .keep k _
  | hit k lazy qid =>
    simp only [St.step]
    split
    · exact .skip
    · cases lazy <;> exact .give _
  | mutate c i v =>
    simp only [St.step]
    split
    · exact .skip
    · next ls hcs =>
      split
      · exact .skip
      · next l hli => exact .write v hcs hli

theorem inv_change {s s' : St} {op : Op} (hi : s.Inv) (hch : Change s op s') : s'.Inv := by
  obtain ⟨hc, hk⟩ := hi
  cases hch with
  | skip => exact ⟨hc, hk⟩
  | give vals =>
    obtain ⟨hn, hf, -, -⟩ := alloc_spec vals s.heap
    have up : ∀ l, l < s.heap.next → l < (s.heap.alloc vals).1.next := fun l h => by omega
    refine ⟨fun e he => ?_, List.forall_mem_append.mpr
      ⟨fun c hcm l hl => up l (hk c hcm l hl), List.forall_mem_singleton.mpr fun l hl => (hf l hl).2⟩⟩
    obtain ⟨h1, h2, h3⟩ := hc e he
    exact ⟨(read_alloc_old h2).trans h1, fun l hl => up l (h2 l hl), List.forall_mem_append.mpr
      ⟨h3, List.forall_mem_singleton.mpr fun l hl hin => by have := hf l hin; have := h2 l hl; omega⟩⟩
  | keep k vals =>
    obtain ⟨hn, hf, hr, -⟩ := alloc_spec vals s.heap
    have up : ∀ l, l < s.heap.next → l < (s.heap.alloc vals).1.next := fun l h => by omega
    refine ⟨List.forall_mem_cons.mpr ⟨?_, fun e he => ?_⟩, fun c hcm l hl => up l (hk c hcm l hl)⟩
    · exact ⟨hr, fun l hl => (hf l hl).2, fun c hcm l hl hin => by have := hf l hl; have := hk c hcm l hin; omega⟩
    · obtain ⟨h1, h2, h3⟩ := hc e he
      exact ⟨(read_alloc_old h2).trans h1, fun l hl => up l (h2 l hl), h3⟩
  | write v hcs hli =>
    refine ⟨fun e he => ?_, hk⟩
    obtain ⟨h1, h2, h3⟩ := hc e he
    exact ⟨(read_write_other fun hin => h3 _ (List.mem_of_getElem? hcs) _ hin (List.mem_of_getElem? hli)).trans h1, h2, h3⟩

theorem inv_step (s : St) (op : Op) (hi : s.Inv) : (s.step allDeep op).1.Inv :=
  inv_change hi (step_change s op)

theorem lookup_mem {cache : List Entry} {k : Nat} {e : Entry} (h : lookup cache k = some e) : e ∈ cache :=
  List.mem_of_find?_eq_some h

theorem step_served (s : St) (hi : s.Inv) (op : Op) (id : Nat) (vals : List Nat)
    (hs : (s.step allDeep op).2.served = some (id, vals)) : (s.step allDeep op).2.expected = some vals := by
  cases op with
  | hit k lazy qid =>
    simp only [St.step] at hs ⊢
    split at hs
    · cases hs
    · next e he =>
      have hdeep : (if lazy = true then allDeep.lazyHitDeep else allDeep.hitDeep) = true := by cases lazy <;> rfl
      simp only [hdeep, if_true] at hs ⊢
      -- served is a fresh copy of the entry: it reads as the entry does, and the entry reads as when it was stored
      rw [read_alloc, (hi.cacheOk e (lookup_mem he)).1] at hs
      cases hs
      rfl
  | produce vals' => cases hs
  | store k c => simp only [St.step] at hs; split at hs <;> cases hs
  | mutate c i v =>
    simp only [St.step] at hs
    split at hs
    · cases hs
    · split at hs <;> cases hs

theorem run_eq (cfg : Cfg) (s : St) (ops : List Op) : s.run cfg ops = Lts.runOut (St.step cfg) s ops := by
  induction ops generalizing s with
  | nil => rfl
  | cons op ops ih => simp only [St.run, Lts.runOut, ih]

theorem run_inv (ops : List Op) : ∀ (s : St), s.Inv → (s.run allDeep ops).1.Inv := fun _ hi =>
  run_eq .. ▸ (Lts.runOut_inv (Q := fun _ => True) (fun s op hi => ⟨inv_step s op hi, trivial⟩) ops hi).1

/-- **Whatever callers do to responses they produced, stored or were served —
in any order, through any handle they hold — every hit (fresh or stale)
serves exactly the contents that were stored under that key, with the id of
the query it answers.** -/
theorem hits_are_isolated (ops : List Op) : ∀ (s : St), s.Inv →
    ∀ o ∈ (s.run allDeep ops).2, ∀ id vals, o.served = some (id, vals) → o.expected = some vals := fun _ hi =>
  run_eq .. ▸ (Lts.runOut_inv (fun s op hi => ⟨inv_step s op hi, step_served s hi op⟩) ops hi).2

theorem hit_id (s : St) (k qid : Nat) (lazy : Bool) (cfg : Cfg) (id : Nat) (vals : List Nat)
    (hs : (s.step cfg (.hit k lazy qid)).2.served = some (id, vals)) : id = qid := by
  simp only [St.step] at hs
  split at hs
  · cases hs
  · generalize (if lazy = true then cfg.lazyHitDeep else cfg.hitDeep) = deep at hs
    cases deep <;> cases hs <;> rfl

/-! ## queries that miss at the same time; what a caller sees through its own handle -/

theorem xstep_miss (s : St) (k qid : Nat) (vals : List Nat) (fl : Option Nat) :
    s.xstep allDeep (.miss k qid vals fl) =
      (((s.step allDeep (.produce vals)).1.step allDeep (.store k s.callers.length)).1,
        ⟨⟨some (qid, (s.heap.alloc vals).1.read (s.heap.alloc vals).2), some vals⟩, none⟩) := by
  simp [St.xstep, allDeep]

theorem xinv_step (s : St) (op : XOp) (hi : s.Inv) : (s.xstep allDeep op).1.Inv := by
  cases op with
  | base op => exact inv_step s op hi
  | miss k qid vals fl => rw [xstep_miss]; exact inv_step _ _ (inv_step s _ hi)
  | look c => exact hi

theorem disj_change {s s' : St} {op : Op} (hi : s.Inv) (hd : s.Disj) (hc : Change s op s') : s'.Disj := by
  cases hc with
  | give vals =>
    refine List.pairwise_append.mpr ⟨hd, List.pairwise_singleton _ _, fun a ha b hb l hl hin => ?_⟩
    cases List.mem_singleton.mp hb
    have := (alloc_fresh hin).1
    have := hi.callersOk a ha l hl
    omega
  | _ => exact hd    -- the other changes leave `callers` alone

theorem disj_step (s : St) (op : Op) (hi : s.Inv) (hd : s.Disj) : (s.step allDeep op).1.Disj :=
  disj_change hi hd (step_change s op)

theorem xdisj_step (s : St) (op : XOp) (hi : s.Inv) (hd : s.Disj) : (s.xstep allDeep op).1.Disj := by
  cases op with
  | base op => exact disj_step s op hi hd
  | miss k qid vals fl => rw [xstep_miss]; exact disj_step _ _ (inv_step s _ hi) (disj_step s _ hi hd)
  | look c => exact hd

theorem disj_at (s : St) (hd : s.Disj) (c c' : Nat) (a b : List Nat) (hne : c ≠ c')
    (ha : s.callers[c]? = some a) (hb : s.callers[c']? = some b) : ∀ l ∈ a, l ∉ b := by
  have hp := List.pairwise_iff_getElem.mp hd
  obtain ⟨h1, rfl⟩ := List.getElem?_eq_some_iff.mp ha
  obtain ⟨h2, rfl⟩ := List.getElem?_eq_some_iff.mp hb
  rcases Nat.lt_or_gt_of_ne hne with hlt | hgt
  · exact hp c c' h1 h2 hlt
  · exact fun l hl hin => hp c' c h2 h1 hgt l hin hl

theorem step_keeps_held {s : St} (hi : s.Inv) (hd : s.Disj) (op : Op) {c' : Nat} {ls : List Nat}
    (hc : s.callers[c']? = some ls) (hne : ∀ i v, op ≠ .mutate c' i v) :
    (s.step allDeep op).1.callers[c']? = some ls ∧ (s.step allDeep op).1.heap.read ls = s.heap.read ls := by
  have hlt : c' < s.callers.length := (List.getElem?_eq_some_iff.mp hc).1
  have hold : ∀ l ∈ ls, l < s.heap.next := hi.callersOk ls (List.mem_of_getElem? hc)
  have hch := step_change s op
  generalize (s.step allDeep op).1 = s' at hch ⊢
  cases hch with
  | skip => exact ⟨hc, rfl⟩
  | give => exact ⟨(List.getElem?_append_left hlt).trans hc, read_alloc_old hold⟩
  | keep => exact ⟨hc, read_alloc_old hold⟩
  | @write c i _ l v hcs hli =>
    exact ⟨hc, read_write_other
      (disj_at s hd c c' _ ls (fun e => hne i v (e ▸ rfl)) hcs hc l (List.mem_of_getElem? hli))⟩

/-- **Answers handed out around the cache are private.** With deep copies at the store and hit sites and every missing
query keeping the response of its own exchange, whatever happens — other queries produce, store, hit, miss at the same
time, rewrite what they hold — the message a caller holds reads the same before and after, unless the operation is a
write through that very handle. -/
theorem others_cannot_change_what_a_caller_holds (s : St) (hi : s.Inv) (hd : s.Disj) (op : XOp) (c' : Nat)
    (hlt : c' < s.callers.length) (hne : ∀ i v, op ≠ .base (.mutate c' i v)) :
    ((s.xstep allDeep op).1.xstep allDeep (.look c')).2.seen = (s.xstep allDeep (.look c')).2.seen := by
  obtain ⟨ls, hc⟩ : ∃ ls, s.callers[c']? = some ls := ⟨s.callers[c'], List.getElem?_eq_getElem hlt⟩
  have seen_of_kept : ∀ s' : St, s'.callers[c']? = some ls → s'.heap.read ls = s.heap.read ls →
      (s'.xstep allDeep (.look c')).2.seen = (s.xstep allDeep (.look c')).2.seen := by
    intro s' h1 h2
    simp only [St.xstep, h1, hc, Option.map_some, h2]
  cases op with
  | base op =>
    have := step_keeps_held hi hd op hc (fun i v e => hne i v (by rw [e]))
    exact seen_of_kept _ this.1 this.2
  | miss k qid vals fl =>
    rw [xstep_miss]
    have k1 := step_keeps_held hi hd (.produce vals) hc (fun i v e => by cases e)
    have k2 := step_keeps_held (inv_step s _ hi) (disj_step s _ hi hd) (.store k s.callers.length) k1.1 (fun i v e => by cases e)
    exact seen_of_kept _ k2.1 (k2.2.trans k1.2)
  | look c => exact seen_of_kept _ hc rfl

theorem xrun_eq (cfg : Cfg) (s : St) (ops : List XOp) : s.xrun cfg ops = Lts.runOut (St.xstep cfg) s ops := by
  induction ops generalizing s with
  | nil => rfl
  | cons op ops ih => simp only [St.xrun, Lts.runOut, ih]

theorem xrun_inv (ops : List XOp) : ∀ (s : St), s.Inv → s.Disj → (s.xrun allDeep ops).1.Inv ∧ (s.xrun allDeep ops).1.Disj :=
  fun _ hi hd => xrun_eq .. ▸ (Lts.runOut_inv (P := fun s => s.Inv ∧ s.Disj) (Q := fun _ => True)
    (fun s op h => ⟨⟨xinv_step s op h.1, xdisj_step s op h.1 h.2⟩, trivial⟩) ops ⟨hi, hd⟩).1

theorem xstep_served (s : St) (hi : s.Inv) (op : XOp) (id : Nat) (vals : List Nat)
    (hs : (s.xstep allDeep op).2.out.served = some (id, vals)) : (s.xstep allDeep op).2.out.expected = some vals := by
  cases op with
  | base op => exact step_served s hi op id vals hs
  | miss k qid vals' fl =>
    rw [xstep_miss] at hs ⊢
    cases hs
    exact congrArg some (read_alloc s.heap vals').symm
  | look c => cases hs

/-- hits and misses alike are handed exactly the expected contents (the stored ones / their own upstream's) -/
theorem xserved_is_expected (ops : List XOp) : ∀ (s : St), s.Inv →
    ∀ o ∈ (s.xrun allDeep ops).2, ∀ id vals, o.out.served = some (id, vals) → o.out.expected = some vals := fun _ hi =>
  xrun_eq .. ▸ (Lts.runOut_inv (fun s op hi => ⟨xinv_step s op hi, xstep_served s hi op⟩) ops hi).2

/-- a query that is handed a struct copy of another in-flight query's response: a write through the first query's
handle changes what the second one holds (and the other way round) -/
example : ((({} : St).xrun ⟨true, true, true, false⟩ [.miss 1 11 [7, 8] none, .miss 1 12 [7, 8] (some 0), .look 1,
      .base (.mutate 0 0 99), .look 1]).2.map (fun o => o.seen)) = [none, none, some [7, 8], none, some [99, 8]] := by decide

example : ((({} : St).xrun allDeep [.miss 1 11 [7, 8] none, .miss 1 12 [7, 8] (some 0), .look 1,
      .base (.mutate 0 0 99), .look 1, .base (.hit 1 false 5)]).2.map (fun o => (o.seen, o.out.served))) =
    [(none, some (11, [7, 8])), (none, some (12, [7, 8])), (some [7, 8], none), (none, none), (some [7, 8], none), (none, some (5, [7, 8]))] := by decide

/-! ## witnesses: a shallow copy at any one site breaks it -/

/-- the store keeps the caller's locations: a later write through the caller's handle changes what is served -/
example : ((({} : St).run ⟨false, true, true, true⟩ [.produce [7, 8], .store 1 0, .mutate 0 0 99, .hit 1 false 5]).2.getLast?.map
    (fun o => (o.served, o.expected))) = some (some (5, [99, 8]), some [7, 8]) := by decide

/-- a stale hit hands out the cache's own locations: a write through the served handle changes the next hit -/
example : ((({} : St).run ⟨true, true, false, true⟩ [.produce [7, 8], .store 1 0, .hit 1 true 5, .mutate 1 1 42, .hit 1 true 6]).2.getLast?.map
    (fun o => (o.served, o.expected))) = some (some (6, [7, 42]), some [7, 8]) := by decide

/-- a fresh hit that hands out the cache's own locations - even for an answer without any record (question element and
header element only): the header written through the first hit's handle is what the next query is served -/
example : ((({} : St).run ⟨true, false, true, true⟩ [.produce [7, 2], .store 1 0, .hit 1 false 5, .mutate 1 1 42, .hit 1 false 6]).2.getLast?.map
    (fun o => (o.served, o.expected))) = some (some (6, [7, 42]), some [7, 2]) := by decide

/-- with deep copies the same history over a record-less answer serves the stored contents twice -/
example : ((({} : St).run allDeep [.produce [7, 2], .store 1 0, .hit 1 false 5, .mutate 1 1 42, .mutate 1 0 43, .hit 1 false 6]).2.map
    (fun o => o.served)) = [none, none, some (5, [7, 2]), none, none, some (6, [7, 2])] := by decide

theorem facts_guard :
    Gen.Facts.c10StoreCopies = some true ∧ Gen.Facts.c10CopyNoOptDeep = some true ∧ Gen.Facts.c10HitCopies = some true ∧
    Gen.Facts.c10LazyHitCopies = some true ∧ Gen.Facts.c10ItemRespWriters = some 2 ∧ Gen.Facts.c10ExecSetsId = some true ∧
    Gen.Facts.c10LazyUpdateUsesContextCopy = some true ∧ Gen.Facts.c10DumpLoadUnpacksFresh = some true ∧
    Gen.Facts.c10MissPrivate = some true ∧ Gen.Facts.c10HitServesOnlyCopies = some true := by decide

example : ((({} : St).run allDeep [.produce [7, 8], .store 1 0, .mutate 0 0 99, .hit 1 false 5, .mutate 1 1 42, .hit 1 true 6]).2.map
    (fun o => o.served)) = [none, none, none, some (5, [7, 8]), none, some (6, [7, 8])] := by decide

end Props.C10

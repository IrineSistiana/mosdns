import MosdnsVerif.Model.C11
import MosdnsVerif.Gen.Facts

/-!
# C11 — the cache store is exact and bounded
-/
namespace Props.C11
open Model.C11

/-! ## lists searched and filtered by key: `Shard` with `lookup` / `remove`, `Lru` with `lookup` / `without` -/
section Keyed
variable {ε κ : Type} [BEq κ] [LawfulBEq κ] {key : ε → κ} {l : List ε} {k : κ} {e : ε}

theorem find_key_some (h : l.find? (key · == k) = some e) : e ∈ l ∧ key e = k :=
  ⟨List.mem_of_find?_eq_some h, by simpa using List.find?_some h⟩

theorem find_key_none (h : l.find? (key · == k) = none) (he : e ∈ l) : key e ≠ k := by
  simpa using List.find?_eq_none.mp h e he

theorem mem_filter_key : e ∈ l.filter (key · != k) ↔ e ∈ l ∧ key e ≠ k := by simp

theorem filter_key_length_lt (h : (l.find? (key · == k)).isSome) : (l.filter (key · != k)).length < l.length := by
  obtain ⟨e, he, hk⟩ := List.find?_isSome.mp h
  exact List.length_filter_lt_length_iff_exists.mpr ⟨e, he, by simpa using hk⟩

end Keyed

section Sharded
variable {ε β : Type} {key : ε → Nat} {val : ε → β} {home : Nat → Nat} {sh sh' : Nat → List ε} {spec spec' : Nat → Option β}

/-- The exactness invariant, in one direction only: every entry stored agrees with the specification and sits in
the home shard of its key. A hit reads one stored entry of the home shard, so this is all it needs, and "at most one
entry per key" is never asked for. -/
def ExactOn (key : ε → Nat) (val : ε → β) (home : Nat → Nat) (sh : Nat → List ε) (spec : Nat → Option β) : Prop :=
  ∀ i, ∀ e ∈ sh i, spec (key e) = some (val e) ∧ home (key e) = i

theorem ExactOn.mono (h : ExactOn key val home sh spec) (hsub : ∀ i, ∀ e ∈ sh' i, e ∈ sh i) :
    ExactOn key val home sh' spec := fun i e he => h i e (hsub i e he)

theorem ExactOn.find (h : ExactOn key val home sh spec) {i k : Nat} {e : ε} (hf : (sh i).find? (key · == k) = some e) :
    spec k = some (val e) :=
  (find_key_some hf).2 ▸ (h i e (find_key_some hf).1).1

/-- An operation on key `k` keeps the invariant if it leaves the specification of the other keys and the other shards
alone, and every entry of `k`'s shard afterwards is either one for `k` that the new specification holds, or an old entry
for another key. -/
theorem ExactOn.update (h : ExactOn key val home sh spec) (k : Nat) (hspec : ∀ x, x ≠ k → spec' x = spec x)
    (hother : ∀ i, i ≠ home k → sh' i = sh i)
    (hk : ∀ e ∈ sh' (home k), (key e = k ∧ spec' k = some (val e)) ∨ (key e ≠ k ∧ e ∈ sh (home k))) :
    ExactOn key val home sh' spec' := by
  intro i e he
  by_cases hi : i = home k
  · subst hi
    rcases hk e he with ⟨hek, hv⟩ | ⟨hek, hm⟩
    · exact ⟨hek ▸ hv, by rw [hek]⟩
    · exact ⟨(hspec _ hek).trans (h _ e hm).1, (h _ e hm).2⟩
  · have := h i e (hother i hi ▸ he)
    exact ⟨(hspec _ fun hek => hi (hek ▸ this.2).symm).trans this.1, this.2⟩

theorem sum_le (f : Nat → Nat) (b : Nat) (h : ∀ i, f i ≤ b) : ∀ n, ((List.range n).map f).sum ≤ n * b := by
  intro n
  induction n with
  | zero => simp
  | succ n ih =>
    rw [List.range_succ, List.map_append, List.sum_append, List.map_singleton, List.sum_singleton, Nat.succ_mul]
    exact Nat.add_le_add ih (h n)

end Sharded

theorem remove_length_lt {s : Shard} {k : Nat} (hk : (s.lookup k).isSome) : (s.remove k).length < s.length :=
  filter_key_length_lt hk

theorem remove_held_length_le {s : Shard} {k n : Nat} (hk : (s.lookup k).isSome) (h : s.length ≤ n + 1) :
    (s.remove k).length ≤ n :=
  Nat.le_of_lt_succ (Nat.lt_of_lt_of_le (remove_length_lt hk) h)

theorem lookup_head (e : Entry) (tail : Shard) : (Shard.lookup (e :: tail) e.key).isSome := by simp [Shard.lookup]

theorem evict_sublist (max fuel : Nat) (s : Shard) (vs : List Nat) : (evict max fuel s vs).Sublist s := by
  fun_induction evict max fuel s vs
  case case3 hv ih => rw [if_pos hv]; exact ih.trans List.filter_sublist  -- the victim named is held
  case case4 hv ih => rw [if_neg hv]; exact ih.trans List.filter_sublist  -- it is not: the first entry goes
  case case5 ih => exact ih.trans List.filter_sublist                     -- none is named: the first entry goes
  all_goals exact .refl _                                                 -- no fuel, an empty shard, room

theorem evict_length {max : Nat} (hmax : 0 < max) (fuel : Nat) (s : Shard) (vs : List Nat) (h : s.length ≤ fuel) :
    (evict max fuel s vs).length + 1 ≤ max := by
  -- each round removes a key that the shard holds (the victim named, or that of the first entry), so the length drops
  -- by at least 1 and `s.length` rounds are enough
  fun_induction evict max fuel s vs
  case case1 => rw [List.length_eq_zero_iff.mp (Nat.le_zero.mp h)]; exact hmax  -- no fuel: the shard is empty
  case case2 => exact hmax                                                      -- an empty shard
  case case3 hv ih => rw [if_pos hv]; exact ih (remove_held_length_le hv h)
  case case4 hv ih => rw [if_neg hv]; exact ih (remove_held_length_le (lookup_head _ _) h)
  case case5 ih => exact ih (remove_held_length_le (lookup_head _ _) h)
  case case6 hn => omega                                                        -- room

theorem remove_length_le (s : Shard) (k : Nat) : (s.remove k).length ≤ s.length := List.length_filter_le _ _

/-- **a shard with a maximum never holds more entries than its maximum after an insert** -/
theorem set_length_le (max : Nat) (hmax : 0 < max) (s : Shard) (e : Entry) (vs : List Nat) :
    (s.set max e vs).length ≤ max := by
  simp only [Shard.set, List.length_cons]
  -- the shard that `e` goes into has room: it was evicted down to it, or had it from the start
  refine Nat.le_trans (Nat.succ_le_succ (remove_length_le _ _)) ?_
  split
  · exact evict_length hmax _ s vs (Nat.le_refl _)
  · next hc => simpa [hmax] using hc

theorem set_mem {max : Nat} {s : Shard} {e x : Entry} {vs : List Nat} (hx : x ∈ s.set max e vs) :
    x = e ∨ (x.key ≠ e.key ∧ x ∈ s) := by
  simp only [Shard.set, List.mem_cons] at hx
  refine hx.imp_right fun h => ?_
  have := mem_filter_key.mp h
  refine ⟨this.2, ?_⟩
  split at this
  · exact (evict_sublist ..).subset this.1
  · exact this.1

theorem modifyShard_shards (c : Cache) (i : Nat) (f : Shard → Shard) (j : Nat) :
    (modifyShard c i f).shards j = if j = i then f (c.shards i) else c.shards j := by
  simp only [modifyShard]; split <;> simp [*]

def Bounded (m : Nat) (c : Cache) : Prop := c.perShard = m ∧ ∀ i, (c.shards i).length ≤ m

theorem Bounded.modify {m : Nat} {c : Cache} (h : Bounded m c) (i : Nat) (f : Shard → Shard)
    (hf : (f (c.shards i)).length ≤ m) : Bounded m (modifyShard c i f) :=
  ⟨h.1, fun j => by rw [modifyShard_shards]; split; exact hf; exact h.2 j⟩

theorem Bounded.remove {m : Nat} {c : Cache} (h : Bounded m c) (i k : Nat) : Bounded m (modifyShard c i (·.remove k)) :=
  h.modify i _ (Nat.le_trans (remove_length_le _ _) (h.2 i))

theorem step_bounded (sumOf : Nat → Nat) {m : Nat} (hm : 0 < m) {c : Cache} (h : Bounded m c) (op : Op) :
    Bounded m (c.step sumOf op).1 := by
  cases op with
  | store key val exp now vs =>
    simp only [Cache.step]
    split
    · exact h
    · exact h.modify _ _ (by rw [h.1]; exact set_length_le m hm _ _ _)
  | get key now =>
    simp only [Cache.step]
    split
    · split
      · exact h.remove _ _
      · exact h
    · exact h
  | flush => exact ⟨h.1, fun _ => Nat.zero_le _⟩
  | gc now => exact ⟨h.1, fun i => Nat.le_trans (List.length_filter_le _ _) (h.2 i)⟩
  | len => exact h

theorem mstep_bounded (sumOf : Nat → Nat) {m : Nat} (hm : 0 < m) {c : Cache} (h : Bounded m c) (op : MOp) :
    Bounded m (c.mstep sumOf op).1 := by
  cases op with
  | base op => exact step_bounded sumOf hm h op
  | del key => exact h.remove _ _
  | range f => exact ⟨h.1, fun i => Nat.le_trans (List.length_filterMap_le _ _) (h.2 i)⟩
  | tas key act =>
    simp only [Cache.mstep]
    split
    · next e hl =>
      split
      · exact h
      · exact h.remove _ _
      · exact h.modify _ _ (Nat.succ_le_of_lt (Nat.lt_of_lt_of_le (remove_length_lt (Option.isSome_of_eq_some hl)) (h.2 _)))
    · exact h

theorem run_eq_mrun (sumOf : Nat → Nat) (ops : List Op) : ∀ c : Cache, c.run sumOf ops = c.mrun sumOf (ops.map .base) := by
  induction ops with
  | nil => intro c; rfl
  | cons op ops ih => intro c; simp only [Cache.run, List.map_cons, Cache.mrun, Cache.mstep, ih]

theorem mrun_bounded (sumOf : Nat → Nat) {m : Nat} (hm : 0 < m) (ops : List MOp) :
    ∀ c : Cache, Bounded m c → Bounded m (c.mrun sumOf ops).1 := by
  induction ops with
  | nil => exact fun _ h => h
  | cons op ops ih => exact fun c h => ih _ (mstep_bounded sumOf hm h op)

theorem clampSize_eq_max (minSize : Nat) (size : Int) : clampSize minSize size = max minSize size.toNat := by
  unfold clampSize
  split
  · next h => exact (Nat.max_eq_left (Int.toNat_le.mpr (Int.le_of_lt h))).symm
  · next h => exact (Nat.max_eq_right (Int.toNat_le_toNat (Int.not_lt.mp h))).symm

theorem new_mrun_len_le (sumOf : Nat → Nat) (minSize : Nat) (size : Int) (hs : shardCount ≤ clampSize minSize size) (ops : List MOp) :
    ((Cache.new minSize size).mrun sumOf ops).1.len ≤ clampSize minSize size := by
  have hm : 0 < clampSize minSize size / shardCount := Nat.div_pos hs (by decide)
  have h := mrun_bounded sumOf hm ops (Cache.new minSize size) ⟨rfl, fun _ => Nat.zero_le _⟩
  exact Nat.le_trans (sum_le _ _ h.2 shardCount) (Nat.mul_div_le _ _)

/-- **The number of entries never exceeds the configured capacity** (at least
the documented minimum), after any sequence of stores, lookups, flushes and
sweeps, for every configured size, every hash function and every choice of
eviction victims. -/
theorem len_le_capacity (sumOf : Nat → Nat) (minSize : Nat) (hmin : shardCount ≤ minSize) (size : Int) (ops : List Op) :
    ((Cache.new minSize size).run sumOf ops).1.len ≤ clampSize minSize size := by
  rw [run_eq_mrun]
  exact new_mrun_len_le sumOf minSize size (Nat.le_trans hmin (clampSize_eq_max .. ▸ Nat.le_max_left ..)) _

/-- the instance the code runs: minimum size read from the source (pkg/cache and the plugin) -/
theorem cache_len_le (sumOf : Nat → Nat) (size : Int) (ops : List Op) :
    ((Cache.new (Gen.Facts.c11MinSize.getD 0) size).run sumOf ops).1.len ≤ Nat.max 1024 size.toNat := by
  have hm : Gen.Facts.c11MinSize.getD 0 = 1024 := by decide
  rw [hm]
  exact Nat.le_trans (len_le_capacity sumOf 1024 (by decide) size ops) (Nat.le_of_eq (clampSize_eq_max 1024 size))

/-- **`concurrent_map.Map` with a maximum never holds more than 64 * (size / 64) <= size entries**, after any sequence of
set / get / del / flush / TestAndSet on present keys / RangeDo with setting and deleting callbacks -/
theorem map_len_le (sumOf : Nat → Nat) (size : Nat) (hs : shardCount ≤ size) (ops : List MOp) :
    ((Cache.new 0 size).mrun sumOf ops).1.len ≤ size := by
  have hc : clampSize 0 (size : Int) = size := by rw [clampSize_eq_max, Int.toNat_natCast, Nat.zero_max]
  have := new_mrun_len_le sumOf 0 size (hc ▸ hs) ops
  rwa [hc] at this

/-! ## the bound across flushes: the map that carries the capacity is the one made in `New` -/

/-- what `Flush` does to the map object, as read from the source: it empties the one map made in `New` from the
normalised size (`none`); when the source is not recognised as doing that, the model takes the worst a replacement can
do, `NewMapCache(0)` (a size that was never filled in) -/
def flushRebuild : Option Int :=
  if Gen.Facts.c11MapCreatedOnceFlushOnlyEmpties == some true then none else some 0

theorem stepIn_none (sumOf : Nat → Nat) (c : Cache) (op : Op) : c.stepIn none sumOf op = c.step sumOf op := by
  cases op <;> rfl

theorem runIn_none (sumOf : Nat → Nat) (ops : List Op) : ∀ (c : Cache), Cache.runIn none sumOf c ops = c.run sumOf ops := by
  induction ops with
  | nil => intro c; rfl
  | cons op ops ih =>
    intro c
    simp only [Cache.runIn, Cache.run, stepIn_none, ih]

/-- a `Flush` that does replace the map is harmless exactly when the replacement gets the same per-shard maximum, e.g.
`NewMapCache` of the normalised size again -/
theorem flushIn_same_size (c : Cache) (size : Int) (h : size.toNat / shardCount = c.perShard) :
    (c.flushIn (some size)).perShard = (c.flushIn none).perShard ∧
    ∀ i, (c.flushIn (some size)).shards i = (c.flushIn none).shards i := by
  simp [Cache.flushIn, h]

/-- **The capacity holds after any number of flushes, however many distinct keys are stored afterwards**, for the
`Flush` read from the source (one map, created in `New` from the normalised size, emptied in place): `by decide` fails
if the map is created anywhere else, the field holding it is assigned again, or a shard's maximum is written after its
creation. -/
theorem cache_len_le_across_flushes (sumOf : Nat → Nat) (size : Int) (ops : List Op) :
    ((Cache.new (Gen.Facts.c11MinSize.getD 0) size).runIn flushRebuild sumOf ops).1.len ≤ Nat.max 1024 size.toNat := by
  have h : flushRebuild = none := by decide
  rw [h, runIn_none]
  exact cache_len_le sumOf size ops

/-- the stores `key i := i` for `i < n`, all live (expiry 100 at time 10), no victims named -/
def distinctStores (n : Nat) : List Op := (List.range n).map (fun k => Op.store k k 100 10 [])

/-- a `Flush` that replaces the map by one made from a size that was never filled in is refuted: with a minimum (and so
a capacity) of 64 and 65 distinct keys stored, the cache holds 64 entries before the first flush (both variants: the
first map is still the one made in `New`), and after a flush 65 with the replacing `Flush`, 64 with the emptying one -/
theorem flush_rebuilding_from_an_unfilled_size_is_refuted :
    ((Cache.new 64 0).runIn (some 0) id (distinctStores 65 ++ [.len])).2.getLast? = some (.len 64) ∧
    ((Cache.new 64 0).runIn (some 0) id (distinctStores 65 ++ [.flush, .len] ++ distinctStores 65 ++ [.len])).2.getLast? = some (.len 65) ∧
    ((Cache.new 64 0).runIn none id (distinctStores 65 ++ [.flush, .len] ++ distinctStores 65 ++ [.len])).2.getLast? = some (.len 64) ∧
    ((Cache.new 64 0).flushIn (some 0)).perShard = 0 := by
  decide +kernel  -- runs of 65 and 130 stores: the elaborator's own evaluation is several times as slow

/-! ## exactness: what a lookup returns was stored under that key, latest, not flushed, not expired -/

def Exact (sumOf : Nat → Nat) (c : Cache) (spec : Nat → Option Entry) : Prop :=
  ExactOn Entry.key (fun e => e) (shardOf sumOf) c.shards spec

theorem Exact.modify {sumOf : Nat → Nat} {c : Cache} {spec spec' : Nat → Option Entry} (h : Exact sumOf c spec) (key : Nat)
    (f : Shard → Shard) (hspec : ∀ x, x ≠ key → spec' x = spec x)
    (hf : ∀ e ∈ f (c.shards (shardOf sumOf key)),
      (e.key = key ∧ spec' key = some e) ∨ (e.key ≠ key ∧ e ∈ c.shards (shardOf sumOf key))) :
    Exact sumOf (modifyShard c (shardOf sumOf key) f) spec' :=
  h.update key hspec (fun i hi => by rw [modifyShard_shards, if_neg hi]) (by rw [modifyShard_shards, if_pos rfl]; exact hf)

theorem Exact.remove {sumOf : Nat → Nat} {c : Cache} {spec spec' : Nat → Option Entry} (h : Exact sumOf c spec) (key : Nat)
    (hspec : ∀ x, x ≠ key → spec' x = spec x) : Exact sumOf (modifyShard c (shardOf sumOf key) (·.remove key)) spec' :=
  h.modify key _ hspec fun _ he => Or.inr (mem_filter_key.mp he).symm

theorem step_exact (sumOf : Nat → Nat) {c : Cache} {spec : Nat → Option Entry} (h : Exact sumOf c spec) (op : Op) :
    Exact sumOf (c.step sumOf op).1 (specStep spec op) := by
  cases op with
  | store key val exp now vs =>
    simp only [Cache.step, specStep]
    split
    · exact h
    · refine h.modify key _ (fun x hx => if_neg hx) fun e he => (set_mem he).imp ?_ id
      rintro rfl
      exact ⟨rfl, if_pos rfl⟩
  | get key now =>
    simp only [Cache.step, specStep]
    split
    · split
      · exact h.remove key fun _ _ => rfl
      · exact h
    · exact h
  | flush => exact fun i e he => nomatch he
  | gc now => exact h.mono fun i e he => (List.mem_filter.mp he).1
  | len => exact h

theorem answer_key {f : RangeF} {e0 e : Entry} (h : f.answer e0 = some (some e)) : e.key = e0.key := by
  obtain ⟨m, r, act⟩ := f
  simp only [RangeF.answer] at h
  split at h
  · cases act with
    | setAdd d => simp only [Option.some.injEq] at h; rw [← h]
    | del => cases h
    | delOdd => dsimp only at h; split at h <;> cases h  -- the answer is `none` or `some none`
  · cases h

theorem rangeDo_mem {f : RangeF} {s : Shard} {e : Entry} (h : e ∈ s.rangeDo f) :
    ∃ e0 ∈ s, e0.key = e.key ∧ applyAnswer f (some e0) = some e := by
  simp only [Shard.rangeDo, List.mem_filterMap] at h
  obtain ⟨e0, he0, hm⟩ := h
  refine ⟨e0, he0, ?_, hm⟩
  split at hm
  · rw [Option.some.inj hm]
  · next hr => exact (answer_key (by rw [hr, hm])).symm

theorem mstep_exact (sumOf : Nat → Nat) {c : Cache} {spec : Nat → Option Entry} (h : Exact sumOf c spec) (op : MOp) :
    Exact sumOf (c.mstep sumOf op).1 (mspecStep spec op) := by
  cases op with
  | base op => exact step_exact sumOf h op
  | del key => exact h.remove key fun x hx => if_neg hx
  | range f =>
    intro i e he
    obtain ⟨e0, he0, hk, ha⟩ := rangeDo_mem he
    have h0 := h i e0 he0
    exact ⟨by simp only [mspecStep, ← hk, h0.1, ha], hk ▸ h0.2⟩
  | tas key act =>
    have hspec : ∀ x, x ≠ key → mspecStep spec (.tas key act) x = spec x := fun x hx => if_neg hx
    simp only [Cache.mstep]
    split
    · next e0 hl =>
      have hnew : mspecStep spec (.tas key act) key = applyAnswer ⟨1, 0, act⟩ (some e0) := by
        simp only [mspecStep, if_true, h.find hl]
      split
      · next hn =>  -- the callback answers "keep"
        have : mspecStep spec (.tas key act) = spec := funext fun x => by
          by_cases hx : x = key
          · rw [hx, hnew, applyAnswer, hn, h.find hl]
          · exact hspec x hx
        rw [this]
        exact h
      · exact h.remove key hspec  -- "delete"
      · next e' hs =>  -- "set `e'`"
        refine h.modify key _ hspec fun e he => ?_
        rcases List.mem_cons.mp he with rfl | he
        · exact Or.inl ⟨(answer_key hs).trans (find_key_some hl).2, by rw [hnew, applyAnswer, hs]⟩
        · exact Or.inr (mem_filter_key.mp he).symm
    · next hl =>
      exact h.update key hspec (fun _ _ => rfl) fun e he => Or.inr ⟨find_key_none hl he, he⟩

theorem specRun_eq_mspecRun (ops : List Op) : ∀ spec, specRun spec ops = mspecRun spec (ops.map .base) := by
  induction ops with
  | nil => intro spec; rfl
  | cons op ops ih => intro spec; exact ih _

theorem mrun_exact (sumOf : Nat → Nat) (ops : List MOp) : ∀ {c : Cache} {spec : Nat → Option Entry}, Exact sumOf c spec →
    Exact sumOf (c.mrun sumOf ops).1 (mspecRun spec ops) := by
  induction ops with
  | nil => exact fun h => h
  | cons op ops ih => exact fun h => ih (mstep_exact sumOf h op)

theorem Exact.get_hit {sumOf : Nat → Nat} {c : Cache} {spec : Nat → Option Entry} (h : Exact sumOf c spec) {key now val exp : Nat}
    (hhit : (c.step sumOf (.get key now)).2 = .hit val exp) : spec key = some ⟨key, val, exp⟩ ∧ now ≤ exp := by
  simp only [Cache.step] at hhit
  split at hhit
  · next e hl =>
    split at hhit
    · cases hhit
    · cases hhit
      obtain ⟨-, rfl⟩ := find_key_some hl
      exact ⟨h.find hl, by omega⟩
  · cases hhit

theorem new_exact {sumOf : Nat → Nat} {minSize : Nat} {size : Int} {spec : Nat → Option Entry} :
    Exact sumOf (Cache.new minSize size) spec := fun _ _ he => nomatch (he : _ ∈ [])

/-- **A lookup returns nothing, or exactly the value most recently stored under
that key and not flushed since, and that value has not expired.** -/
theorem get_exact (sumOf : Nat → Nat) (minSize : Nat) (size : Int) (ops : List Op) (key now val exp : Nat)
    (hhit : (((Cache.new minSize size).run sumOf ops).1.step sumOf (.get key now)).2 = .hit val exp) :
    specRun (fun _ => none) ops key = some ⟨key, val, exp⟩ ∧ now ≤ exp := by
  rw [run_eq_mrun] at hhit
  rw [specRun_eq_mspecRun]
  exact (mrun_exact sumOf _ new_exact).get_hit hhit

/-- **A lookup in `concurrent_map.Map` returns nothing, or exactly what the specification holds under that key**: the
value last set, modified by the answers that later passes (`RangeDo`) and `TestAndSet` calls computed from exactly that
value, not deleted or flushed since - every operation being one atomic step. No update is lost and no flushed or
evicted entry comes back. -/
theorem map_get_exact (sumOf : Nat → Nat) (size : Int) (ops : List MOp) (key val exp : Nat)
    (hhit : (((Cache.new 0 size).mrun sumOf ops).1.step sumOf (.get key 0)).2 = .hit val exp) :
    mspecRun (fun _ => none) ops key = some ⟨key, val, exp⟩ :=
  ((mrun_exact sumOf ops new_exact).get_hit hhit).1

/-! ## the lookup reads the elem after the shard lock is released -/

theorem heap_step_stable (h : ElemHeap) (op : HOp) (a : Nat) (ha : a < h.next) :
    (h.step false op).cell a = h.cell a ∧ h.next ≤ (h.step false op).next := by
  cases op with
  | store v e => exact ⟨if_neg (Nat.ne_of_lt ha), Nat.le_succ _⟩
  | sweep b => exact ⟨rfl, Nat.le_refl _⟩

theorem heap_run_stable (ops : List HOp) : ∀ (h : ElemHeap) (a : Nat), a < h.next →
    (h.run false ops).cell a = h.cell a ∧ h.next ≤ (h.run false ops).next := by
  intro h a ha
  refine List.foldlRecOn (motive := fun h' : ElemHeap => h'.cell a = h.cell a ∧ h.next ≤ h'.next) ops _ ⟨rfl, Nat.le_refl _⟩ ?_
  intro h' ih op _
  have hs := heap_step_stable h' op a (Nat.lt_of_lt_of_le ha ih.2)
  exact ⟨hs.1.trans ih.1, Nat.le_trans ih.2 hs.2⟩

/-- whether the code writes to an elem after its creation (e.g. reuses swept elems), as read from the source -/
def recycles : Bool := !(Gen.Facts.c11ElemsWrittenOnlyAtCreation == some true)

/-- **Whatever other goroutines store or sweep between a lookup's fetch of the elem
(under the shard lock) and its read of the elem's fields (after the unlock), the
lookup returns what it would have returned had it read the fields at the fetch:**
the atomic `get` of `Cache.step` is the lookup of the code. Holds for the elem
discipline read from the source; `by decide` fails if elems are written after creation. -/
theorem lookup_reads_what_it_fetched (h : ElemHeap) (a : Nat) (ha : a < h.next) (between : List HOp) (now : Nat) :
    readFetched recycles h a between now = readFetched recycles h a [] now := by
  have hr : recycles = false := by decide
  rw [hr]
  simp only [readFetched, (heap_run_stable between h a ha).1]
  rfl

/-- with reuse of swept elems the same lookup returns another key's value: key A's elem (value 43690, expired at 10)
is fetched, swept and refilled by the store of another key (value 48059) before it is read at time 50 -/
theorem reuse_of_swept_elems_is_refuted :
    readFetched true ⟨fun _ => ⟨43690, 10⟩, 1, []⟩ 0 [.sweep 0, .store 48059 1000] 50 = .hit 48059 1000 ∧
    readFetched false ⟨fun _ => ⟨43690, 10⟩, 1, []⟩ 0 [.sweep 0, .store 48059 1000] 50 = .miss ∧
    readFetched true ⟨fun _ => ⟨43690, 100⟩, 1, []⟩ 0 [.sweep 0] 50 = .hit 0 100 := by decide

/-- whether the code runs `rangeDo` as one critical section that applies each answer on the spot, as read from the source -/
def rangeOneSection : Bool :=
  Gen.Facts.c11OneCriticalSectionPerMethod == some true && Gen.Facts.c11RangeDoAppliesInPlace == some true

/-- **Whatever other goroutines do to the shard while a `RangeDo` pass is under way happens after the whole pass** (they
wait for the shard lock): the pass is the atomic `Shard.rangeDo`, so it cannot undo a store, a flush or an eviction that
it did not see. Holds for the critical sections read from the source; `by decide` fails if `rangeDo` releases the lock
between looking at the entries and modifying them. -/
theorem rangeDo_is_one_step (f : RangeF) (s : Shard) (between : Shard → Shard) :
    Shard.rangeDoIn rangeOneSection f s between = between (s.rangeDo f) := by
  have h : rangeOneSection = true := by decide
  rw [h]; rfl

/-- a pass that collects its modifications, releases the lock and applies them later is refuted: with key 7 holding 1
and a callback that adds 100, (a) a `Flush` in the window is undone (the flushed entry is back), (b) in a shard with
maximum 1 a store of key 71 in the window (which evicts key 7) leaves two entries, (c) a store of 2 under key 7 in the
window is lost: the shard ends with 101, neither 2 nor 102; the one-section pass gives nothing / one entry / 2 -/
theorem split_rangeDo_is_refuted :
    Shard.rangeDoIn false ⟨1, 0, .setAdd 100⟩ [⟨7, 1, 0⟩] (fun _ => []) = [⟨7, 101, 0⟩] ∧
    Shard.rangeDoIn true ⟨1, 0, .setAdd 100⟩ [⟨7, 1, 0⟩] (fun _ => []) = [] ∧
    (Shard.rangeDoIn false ⟨1, 0, .setAdd 100⟩ [⟨7, 1, 0⟩] (fun s => s.set 1 ⟨71, 5, 0⟩ [])).length = 2 ∧
    (Shard.rangeDoIn true ⟨1, 0, .setAdd 100⟩ [⟨7, 1, 0⟩] (fun s => s.set 1 ⟨71, 5, 0⟩ [])).length = 1 ∧
    Shard.rangeDoIn false ⟨1, 0, .setAdd 100⟩ [⟨7, 1, 0⟩] (fun s => s.set 0 ⟨7, 2, 0⟩ []) = [⟨7, 101, 0⟩] ∧
    Shard.rangeDoIn true ⟨1, 0, .setAdd 100⟩ [⟨7, 1, 0⟩] (fun s => s.set 0 ⟨7, 2, 0⟩ []) = [⟨7, 2, 0⟩] := by decide

/-! ## `set` makes room on the shard it inserts into -/

/-- read from the source: `shard.set` is lock, deferred unlock, eviction loop on the current map, insert - nothing before -/
def setDecidesWhenInserting : Bool :=
  Gen.Facts.c11SetEvictsBeforeInsert == some true && Gen.Facts.c11OneCriticalSectionPerMethod == some true

/-- **Whatever other goroutines do to the shard around a `Set` (remove the key, refill the shard, flush, sweep), the
shard holds at most its maximum when the `Set` returns**: the method is the atomic `Shard.set` applied to the shard as
the others left it. Over all shards, entries, victims and all interfering functions `between`. `by decide` fails if `set`
consults the shard before its critical section. -/
theorem set_is_one_step (max : Nat) (hmax : 0 < max) (s : Shard) (e : Entry) (vs : List Nat) (between : Shard → Shard) :
    Shard.setIn setDecidesWhenInserting max s e vs between = (between s).set max e vs ∧
    (Shard.setIn setDecidesWhenInserting max s e vs between).length ≤ max := by
  have h : setDecidesWhenInserting = true := by decide
  rw [h]
  exact ⟨rfl, set_length_le max hmax _ e vs⟩

/-- a `set` that skips the eviction for a key it saw stored before it took the lock keeps the bound only as long as
nobody interferes: without interference the shard does not grow ... -/
theorem stale_set_alone_keeps_length (max : Nat) (s : Shard) (e : Entry) (vs : List Nat)
    (h : (s.lookup e.key).isSome) : (Shard.setIn false max s e vs id).length ≤ s.length := by
  simp only [Shard.setIn, h, Bool.not_false, Bool.and_self, if_true, id, List.length_cons]
  exact Nat.succ_le_of_lt (remove_length_lt h)

/-- ... but it is refuted under interference: a full shard (maximum 2) holding keys 1 and 2, `Set(1)` looks (stored),
then key 1 is removed and key 3 stored (both bound-preserving steps of the model: the shard is full again, 2 entries),
then the insert: 3 entries. The as-built `set` leaves 2. The same with a flush and two stores in the window. -/
theorem stale_set_is_refuted :
    ((fun (s : Shard) => (s.remove 1).set 2 ⟨3, 30, 9⟩ []) [⟨1, 10, 9⟩, ⟨2, 20, 9⟩]).length = 2 ∧
    (Shard.setIn false 2 [⟨1, 10, 9⟩, ⟨2, 20, 9⟩] ⟨1, 11, 9⟩ [] (fun s => (s.remove 1).set 2 ⟨3, 30, 9⟩ [])).length = 3 ∧
    (Shard.setIn true 2 [⟨1, 10, 9⟩, ⟨2, 20, 9⟩] ⟨1, 11, 9⟩ [] (fun s => (s.remove 1).set 2 ⟨3, 30, 9⟩ [])).length = 2 ∧
    (Shard.setIn false 2 [⟨1, 10, 9⟩, ⟨2, 20, 9⟩] ⟨1, 11, 9⟩ [] (fun _ => (Shard.set 2 [] ⟨3, 30, 9⟩ []).set 2 ⟨4, 40, 9⟩ [])).length = 3 ∧
    (Shard.setIn true 2 [⟨1, 10, 9⟩, ⟨2, 20, 9⟩] ⟨1, 11, 9⟩ [] (fun _ => (Shard.set 2 [] ⟨3, 30, 9⟩ []).set 2 ⟨4, 40, 9⟩ [])).length = 2 := by decide


/-! ## pkg/lru and pkg/concurrent_lru: at most `n * max` entries, and a hit is the value last added -/

theorem lru_add_mem {max : Nat} {q : Lru} {k v : Nat} {x : KV} (hx : x ∈ (q.add true max k v).1) :
    x = ⟨k, v⟩ ∨ (x.key ≠ k ∧ x ∈ q) := by
  simp only [Lru.add] at hx
  split at hx
  · simp only [Bool.not_true, Bool.false_and, Bool.false_eq_true, ↓reduceIte, List.mem_append, List.mem_singleton] at hx
    exact hx.symm.imp_right fun h => (mem_filter_key.mp h).symm
  · next hn =>
    simp only [List.mem_append, List.mem_singleton] at hx
    exact hx.symm.imp_right fun h => ⟨find_key_none hn (List.mem_of_mem_drop h), List.mem_of_mem_drop h⟩

theorem lru_add_length (stores : Bool) (max : Nat) (hmax : 0 < max) (q : Lru) (k v : Nat) (hq : q.length ≤ max) :
    (q.add stores max k v).1.length ≤ max := by
  simp only [Lru.add]
  split
  · next e he =>
    split
    · exact hq
    · rw [List.length_append]
      exact Nat.le_trans (filter_key_length_lt (Option.isSome_of_eq_some he)) hq
  · simp only [List.length_append, List.length_drop, List.length_cons, List.length_nil]; omega

def LBounded (n m : Nat) (c : SLru) : Prop := c.n = n ∧ c.max = m ∧ ∀ i, (c.shards i).length ≤ m

theorem LBounded.modify {n m : Nat} {c : SLru} (h : LBounded n m c) (i : Nat) (q : Lru) (hq : q.length ≤ m) :
    LBounded n m (c.modify i q) :=
  ⟨h.1, h.2.1, fun j => by simp only [SLru.modify]; split; exact hq; exact h.2.2 j⟩

theorem lru_step_bounded (stores : Bool) (sumOf : Nat → Nat) {n m : Nat} (hm : 0 < m) {c : SLru} (h : LBounded n m c) (op : LOp) :
    LBounded n m (c.step stores sumOf op).1 := by
  have hroom : ∀ {k e}, (c.shards (c.shardOf sumOf k)).lookup k = some e → ((c.shards (c.shardOf sumOf k)).without k).length + 1 ≤ m :=
    fun he => Nat.le_trans (filter_key_length_lt (Option.isSome_of_eq_some he)) (h.2.2 _)
  cases op with
  | add k v => exact h.modify _ _ (by rw [h.2.1]; exact lru_add_length stores m hm _ k v (h.2.2 _))
  | get k =>
    simp only [SLru.step]
    split
    · next he => exact h.modify _ _ (by simpa using hroom he)
    · exact h
  | del k =>
    simp only [SLru.step]
    split
    · next he => exact h.modify _ _ (Nat.le_of_succ_le (hroom he))
    · exact h
  | pop =>
    simp only [SLru.step]
    split
    · next e rest he =>
      exact h.modify _ _ (Nat.le_of_succ_le (by simpa [he] using h.2.2 0))
    · exact h
  | clean _ _ => exact ⟨h.1, h.2.1, fun i => Nat.le_trans (List.length_filter_le _ _) (h.2.2 i)⟩
  | flush => exact ⟨h.1, h.2.1, fun _ => Nat.zero_le _⟩
  | len => exact h

theorem lru_run_bounded (stores : Bool) (sumOf : Nat → Nat) {n m : Nat} (hm : 0 < m) (ops : List LOp) :
    ∀ c : SLru, LBounded n m c → LBounded n m (c.run stores sumOf ops).1 := by
  induction ops with
  | nil => exact fun _ h => h
  | cons op ops ih => exact fun c h => ih _ (lru_step_bounded stores sumOf hm h op)

/-- **An LRU (plain, or sharded with `n` shards) never holds more than `n * max` entries**, whatever `Add` does on an
update, after any sequence of Add / Get / Del / PopOldest / Clean / Flush -/
theorem lru_len_le (stores : Bool) (sumOf : Nat → Nat) (n max : Nat) (hmax : 0 < max) (ops : List LOp) :
    ((SLru.new n max).run stores sumOf ops).1.len ≤ n * max := by
  have h := lru_run_bounded stores sumOf hmax ops (SLru.new n max) ⟨rfl, rfl, fun _ => Nat.zero_le _⟩
  rw [SLru.len, h.1]
  exact sum_le _ _ h.2.2 n

def LExact (sumOf : Nat → Nat) (c : SLru) (spec : Nat → Option Nat) : Prop :=
  ExactOn KV.key KV.val (c.shardOf sumOf) c.shards spec

theorem LExact.sub {sumOf : Nat → Nat} {c : SLru} {spec : Nat → Option Nat} (h : LExact sumOf c spec) (i : Nat) (q : Lru)
    (hq : ∀ x ∈ q, x ∈ c.shards i) : LExact sumOf (c.modify i q) spec :=
  h.mono fun j e he => by
    simp only [SLru.modify] at he
    split at he
    · next hj => exact hj ▸ hq e he
    · exact he

theorem lru_step_exact (sumOf : Nat → Nat) {c : SLru} {spec : Nat → Option Nat} (h : LExact sumOf c spec) (op : LOp) :
    LExact sumOf (c.step true sumOf op).1 (lspecStep spec op) := by
  cases op with
  | add k v =>
    refine h.update k (fun x hx => if_neg hx) (fun i hi => if_neg hi) fun e he => ?_
    simp only [SLru.step, SLru.modify, if_true] at he
    refine (lru_add_mem he).imp ?_ id
    rintro rfl
    exact ⟨rfl, if_pos rfl⟩
  | get k =>
    simp only [SLru.step, lspecStep]
    split
    · next e he =>
      refine h.sub _ _ fun x hx => ?_
      rcases List.mem_append.mp hx with hx | hx
      · exact (mem_filter_key.mp hx).1
      · rw [List.mem_singleton.mp hx]; exact (find_key_some he).1
    · exact h
  | del k =>
    simp only [SLru.step, lspecStep]
    split
    · exact h.sub _ _ fun x hx => (mem_filter_key.mp hx).1
    · exact h
  | pop =>
    simp only [SLru.step, lspecStep]
    split
    · next e rest he =>
      exact h.sub _ _ fun x hx => he ▸ List.mem_cons_of_mem _ hx
    · exact h
  | clean _ _ => exact h.mono fun i e he => (List.mem_filter.mp he).1
  | flush => exact fun i e he => nomatch he
  | len => exact h

theorem lru_run_exact (sumOf : Nat → Nat) (ops : List LOp) : ∀ {c : SLru} {spec : Nat → Option Nat}, LExact sumOf c spec →
    LExact sumOf (c.run true sumOf ops).1 (lspecRun spec ops) := by
  induction ops with
  | nil => exact fun h => h
  | cons op ops ih => exact fun h => ih (lru_step_exact sumOf h op)

/-- whether an update through `LRU.Add` always writes the new value, as read from the source -/
def lruStores : Bool := Gen.Facts.c11LruUpdateStoresFirst == some true

/-- **A lookup in an LRU (plain, locked or sharded) returns nothing, or exactly the value most recently added under that
key and not flushed since** - after any sequence of Add / Get / Del / PopOldest / Clean / Flush, for every number of shards,
every maximum and every hash. Holds for the `Add` read from the source; `by decide` fails if an update can return before
the value is written. Under concurrency every method of `ConcurrentLRU` is one critical section (regenerated fact), so a
concurrent history is an interleaving of these steps. -/
theorem lru_get_exact (sumOf : Nat → Nat) (n max : Nat) (ops : List LOp) (key val : Nat)
    (hhit : (((SLru.new n max).run lruStores sumOf ops).1.step lruStores sumOf (.get key)).2 = .hit val) :
    lspecRun (fun _ => none) ops key = some val := by
  have hs : lruStores = true := by decide
  rw [hs] at hhit
  have hex : LExact sumOf ((SLru.new n max).run true sumOf ops).1 (lspecRun (fun _ => none) ops) :=
    lru_run_exact sumOf ops fun i e he => nomatch (he : _ ∈ [])
  simp only [SLru.step] at hhit
  split at hhit
  · next e hl =>
    cases hhit
    exact hex.find hl
  · cases hhit

/-- an `Add` that returns early when the key is already the newest entry is refuted: after add 1:=10, add 1:=20 the lookup
of 1 returns 10, a value overwritten before the lookup began (also after a hit made the key the newest: get, add, get);
the `Add` that writes first returns 20 -/
theorem lru_add_returning_early_is_refuted :
    ((SLru.new 1 4).run false id [.add 1 10, .add 1 20, .get 1]).2 = [.evicted [], .evicted [], .hit 10] ∧
    ((SLru.new 1 4).run true id [.add 1 10, .add 1 20, .get 1]).2 = [.evicted [], .evicted [], .hit 20] ∧
    ((SLru.new 1 4).run false id [.add 1 10, .add 2 11, .get 1, .add 1 20, .get 1]).2 =
      [.evicted [], .evicted [], .hit 10, .evicted [], .hit 10] ∧
    lspecRun (fun _ => none) [.add 1 10, .add 1 20] 1 = some 20 := by decide

/-! The regenerated facts are the ones the model was written from. Most are statement shapes that the model mirrors and
no definition reads (`shardCount` is the literal 64): the build fails when the source departs from them. -/
theorem facts_guard :
    Gen.Facts.c11MinSize = some 1024 ∧ Gen.Facts.c11PluginSizeGoesThroughClamp = some true ∧ Gen.Facts.c11CacheUsesClampedSize = some true ∧ Gen.Facts.c11ShardCount = some 64 ∧
    Gen.Facts.c11PerShardIsSizeDivShards = some true ∧ Gen.Facts.c11ShardByHashMod = some true ∧
    Gen.Facts.c11LockDiscipline = some true ∧ Gen.Facts.c11MapAccessSites = some 15 ∧
    Gen.Facts.c11SetEvictsBeforeInsert = some true ∧ Gen.Facts.c11GetHidesExpired = some true ∧
    Gen.Facts.c11StoreSkipsExpired = some true ∧ Gen.Facts.c11GcRemovesExpired = some true ∧
    Gen.Facts.c11ElemsWrittenOnlyAtCreation = some true ∧
    Gen.Facts.c11OneCriticalSectionPerMethod = some true ∧ Gen.Facts.c11RangeDoAppliesInPlace = some true ∧
    Gen.Facts.c11LruUpdateStoresFirst = some true ∧ Gen.Facts.c11LruAddShape = some true ∧ Gen.Facts.c11LruGetShape = some true ∧
    Gen.Facts.c11ConcurrentLruLocked = some true ∧ Gen.Facts.c11ShardedLruShardByHashMod = some true ∧
    Gen.Facts.c11MapCreatedOnceFlushOnlyEmpties = some true := by decide

example : ((Cache.new 1024 0).run id [.store 5 50 100 10 [], .store 69 51 100 10 [], .get 5 20, .get 69 101, .len]).2 =
    [.none, .none, .hit 50 100, .miss, .len 1] := by decide
example : (Shard.set 2 [⟨1, 1, 9⟩, ⟨2, 2, 9⟩] ⟨3, 3, 9⟩ [2]).map (·.key) = [3, 1] := by decide
example : ((SLru.new 2 2).run true id [.add 2 20, .add 4 40, .add 1 10, .get 2, .add 6 60, .add 2 21, .get 2, .get 4, .clean 2 1, .len]).2 =
    [.evicted [], .evicted [], .evicted [], .hit 20, .evicted [⟨4, 40⟩], .evicted [], .hit 21, .miss, .evicted [⟨2, 21⟩, ⟨1, 10⟩], .len 1] := by decide
example : ((Cache.new 0 64).mrun id [.base (.store 7 1 0 0 []), .base (.store 71 2 0 0 [7]), .range ⟨1, 0, .setAdd 100⟩, .base (.get 71 0), .base (.get 7 0), .base .len]).2 =
    [.none, .none, .len 1, .hit 102 0, .miss, .len 1] := by decide

end Props.C11

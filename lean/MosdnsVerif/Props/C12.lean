import MosdnsVerif.Model.C12
import MosdnsVerif.Lemmas.Lts
import MosdnsVerif.Gen.Facts
import MosdnsVerif.Lemmas.List

/-!
# C12 — domain rules match exactly the names they describe
-/
namespace Props.C12
open Model.C12 Model.C12.Trie

variable {V : Type}

/-! ### The label trie behaves like a finite map from label paths to values -/

theorem child_setChild_same (t c : Trie V) (l : Label) : (t.setChild l c).child l = some c := by
  simp [Trie.setChild, Trie.child, Trie.kids]

theorem child_setChild_other (t c : Trie V) {l l' : Label} (h : l' ≠ l) :
    (t.setChild l c).child l' = t.child l' := by
  have h1 : (l == l') = false := by simpa using fun e => h e.symm
  simp only [Trie.setChild, Trie.child, Trie.kids, List.find?_cons, h1, List.find?_filter]
  -- both sides are a `find?` over the kids of `t`; what differs is the predicate, "not `l`, and `l'`" against "`l'`"
  congr 2
  funext p
  by_cases hp : p.1 = l' <;> simp [hp, h]

theorem val_setChild (t c : Trie V) (l : Label) : (t.setChild l c).val = t.val := rfl

@[simp]
theorem valueAt_nil (t : Trie V) : t.valueAt [] = t.val := rfl

theorem valueAt_cons (t : Trie V) (l : Label) (q : List Label) :
    t.valueAt (l :: q) = (t.child l).bind (·.valueAt q) := by
  simp only [Trie.valueAt]; cases t.child l <;> rfl

theorem valueAt_empty (q : List Label) : (Trie.empty : Trie V).valueAt q = none := by
  cases q <;> rfl

/-- **Add stores exactly at its path** and changes nothing else. -/
theorem valueAt_add (p : List Label) : ∀ (t : Trie V) (v : V) (q : List Label),
    (t.add p v).valueAt q = if q = p then some v else t.valueAt q := by
  induction p with
  | nil => intro t v q; cases q <;> simp [Trie.add, valueAt_cons, Trie.child, Trie.kids, Trie.val]
  | cons l ls ih =>
    intro t v q
    cases q with
    | nil => simp [Trie.add, val_setChild]
    | cons l' qs =>
      by_cases hl : l' = l
      · subst hl
        simp only [Trie.add, valueAt_cons, child_setChild_same, Option.bind_some, ih, List.cons.injEq, true_and]
        cases t.child l' <;> simp [valueAt_empty]
      · simp [Trie.add, valueAt_cons, child_setChild_other _ _ hl, hl]

/-- The value the last `Add` for `q` stored, for a rule list applied oldest first. -/
def lastValue (rs : List (List Label × V)) (q : List Label) : Option V :=
  (rs.reverse.find? (fun r => r.1 == q)).map (·.2)

def build (rs : List (List Label × V)) : Trie V := rs.foldl (fun t r => t.add r.1 r.2) Trie.empty

theorem lastValue_cons (r : List Label × V) (rs : List (List Label × V)) (q : List Label) :
    lastValue (r :: rs) q = (lastValue rs q).or (if q = r.1 then some r.2 else none) := by
  simp only [lastValue, List.reverse_cons, List.find?_append, List.find?_singleton, Option.map_or,
    apply_ite (Option.map _), Option.map_some, Option.map_none, beq_iff_eq, @eq_comm _ r.1 q]

theorem valueAt_fold (rs : List (List Label × V)) (t : Trie V) (q : List Label) :
    (rs.foldl (fun t r => t.add r.1 r.2) t).valueAt q = (lastValue rs q).or (t.valueAt q) := by
  induction rs generalizing t with
  | nil => rfl
  | cons r rs ih =>
    rw [List.foldl_cons, ih, valueAt_add, lastValue_cons, Option.or_assoc]
    split <;> rfl

theorem valueAt_build (rs : List (List Label × V)) (q : List Label) :
    (build rs).valueAt q = lastValue rs q := by
  rw [build, valueAt_fold, valueAt_empty, Option.or_none]

/-! ### The walk keeps the value of the longest stored prefix -/

/-- The value that a path-to-value map `f` gives to the longest prefix of a path that has one. -/
def longest (f : List Label → Option V) : List Label → Option V
  | [] => f []
  | l :: ls => (longest (fun q => f (l :: q)) ls).or (f [])

theorem longest_eq_none {f : List Label → Option V} {path : List Label} :
    longest f path = none ↔ ∀ q, q <+: path → f q = none := by
  induction path generalizing f with
  | nil => simp [longest]
  | cons l ls ih =>
    simp only [longest, Option.or_eq_none_iff, ih, List.prefix_cons_iff]
    constructor
    · rintro ⟨h1, h0⟩ q (rfl | ⟨q, rfl, hq⟩)
      · exact h0
      · exact h1 q hq
    · exact fun h => ⟨fun q hq => h _ (.inr ⟨q, rfl, hq⟩), h _ (.inl rfl)⟩

theorem longest_const_none (path : List Label) : longest (fun _ => (none : Option V)) path = none :=
  longest_eq_none.mpr fun _ _ => rfl

theorem longest_eq_some {f : List Label → Option V} {path : List Label} {v : V} (h : longest f path = some v) :
    ∃ q, q <+: path ∧ f q = some v ∧ ∀ q', q' <+: path → q.length < q'.length → f q' = none := by
  induction path generalizing f with
  | nil => exact ⟨[], List.prefix_rfl, h, fun q' hq' hl => by simp [List.prefix_nil.mp hq'] at hl⟩
  | cons l ls ih =>
    rw [longest, Option.or_eq_some_iff] at h
    rcases h with h | ⟨hn, h0⟩
    · -- a non-empty prefix has the value: the longest one below `l`, with `l` put back in front
      obtain ⟨q, hq, hv, hmax⟩ := ih h
      refine ⟨l :: q, List.cons_prefix_cons.mpr ⟨rfl, hq⟩, hv, fun q' hq' hl => ?_⟩
      rcases List.prefix_cons_iff.mp hq' with rfl | ⟨q'', rfl, hq''⟩
      · simp at hl
      · exact hmax q'' hq'' (by simpa using hl)
    · -- only the empty prefix has a value
      refine ⟨[], List.nil_prefix, h0, fun q' hq' hl => ?_⟩
      rcases List.prefix_cons_iff.mp hq' with rfl | ⟨q'', rfl, hq''⟩
      · simp at hl
      · exact longest_eq_none.mp hn q'' hq''

theorem walk_cons (t : Trie V) (l : Label) (ls : List Label) (acc : Option V) :
    t.walk (l :: ls) acc = match t.child l with | none => acc | some c => c.walk ls (c.val.or acc) := by
  rw [Trie.walk]
  cases t.child l with
  | none => rfl
  | some c => dsimp only; cases c.val <;> rfl

theorem walk_eq_longest (t : Trie V) (path : List Label) (acc : Option V) :
    t.walk path (t.val.or acc) = (longest t.valueAt path).or acc := by
  induction path generalizing t acc with
  | nil => rfl
  | cons l ls ih =>
    rw [walk_cons, longest, funext (valueAt_cons t l)]
    cases t.child l with
    | none => simp [longest_const_none]
    | some c => simp [ih, Option.or_assoc]

theorem matchPath_eq_longest (t : Trie V) (path : List Label) : t.matchPath path = longest t.valueAt path := by
  have := walk_eq_longest t path none
  rwa [Option.or_none, Option.or_none] at this

/-- **C12 (domain rules).** After any sequence of `domain:` rules `rs` (label
paths right to left, duplicates and nesting allowed), `Match` on a name whose
reversed labels are `path` returns
* nothing iff no rule's labels are a label-wise suffix of the name
  (`q <+: path` on reversed labels - a label boundary by construction), and
* otherwise the value of the *longest* such rule, the last one added winning
  among equal rules. -/
theorem domain_match (rs : List (List Label × V)) (path : List Label) :
    ((build rs).matchPath path = none ↔ ∀ q, q <+: path → lastValue rs q = none) ∧
    (∀ v, (build rs).matchPath path = some v →
      ∃ q, q <+: path ∧ lastValue rs q = some v ∧
        ∀ q', q' <+: path → q.length < q'.length → lastValue rs q' = none) := by
  rw [matchPath_eq_longest, funext (valueAt_build rs)]
  exact ⟨longest_eq_none, fun _ => longest_eq_some⟩

/-! ### Lower-casing touches the 26 upper-case letters and nothing else

`norm` is tied to the code's `NormalizeDomain` by `Refine.C12.normalize_refines`. -/

theorem lower_of_not_upper (b : UInt8) (h : ¬ (65 ≤ b ∧ b ≤ 90)) : lower b = b := by
  simp [lower, h]

theorem lower_of_upper (b : UInt8) (h : 65 ≤ b ∧ b ≤ 90) : lower b = b + 32 := by
  simp [lower, h]

theorem toNat_lower (b : UInt8) :
    (lower b).toNat = if 65 ≤ b.toNat ∧ b.toNat ≤ 90 then b.toNat + 32 else b.toNat := by
  simp only [lower, UInt8.le_iff_toNat_le, UInt8.toNat_ofNat]
  split
  · rw [UInt8.toNat_add]
    show (b.toNat + 32) % 256 = b.toNat + 32
    exact Nat.mod_eq_of_lt (by omega)
  · rfl

theorem not_upper_lower (b : UInt8) : ¬ (65 ≤ lower b ∧ lower b ≤ 90) := by
  simp only [UInt8.le_iff_toNat_le, toNat_lower, UInt8.toNat_ofNat]
  split <;> omega

theorem lower_idem (b : UInt8) : lower (lower b) = lower b :=
  lower_of_not_upper _ (not_upper_lower b)

theorem lower_eq_dot (b : UInt8) : lower b = dot ↔ b = dot := by
  simp only [← UInt8.toNat_inj, toNat_lower, UInt8.toNat_ofNat]
  split <;> omega

theorem trimDot_map_lower (s : Bytes) : trimDot (s.map lower) = (trimDot s).map lower := by
  unfold trimDot
  -- the test comes out the same on both sides, since only the dot is lower-cased to the dot
  simp only [List.getLast?_map, Option.map_eq_some_iff, lower_eq_dot, exists_eq_right, apply_ite (List.map lower),
    List.map_dropLast]

/-- **Lower-casing never conflates two different bytes unless they are the two cases of one
letter** (so `_` and DEL, `@` and the back-quote, `[` and `{` stay different). -/
theorem lower_eq_lower (a b : UInt8) (h : lower a = lower b) :
    a = b ∨ ((65 ≤ a ∧ a ≤ 90) ∧ b = a + 32) ∨ ((65 ≤ b ∧ b ≤ 90) ∧ a = b + 32) := by
  by_cases ha : 65 ≤ a ∧ a ≤ 90 <;> by_cases hb : 65 ≤ b ∧ b ≤ 90
  · left
    rw [lower_of_upper a ha, lower_of_upper b hb] at h
    exact (UInt8.add_left_inj 32).mp h
  · right; left
    rw [lower_of_upper a ha, lower_of_not_upper b hb] at h
    exact ⟨ha, h.symm⟩
  · right; right
    rw [lower_of_not_upper a ha, lower_of_upper b hb] at h
    exact ⟨hb, h⟩
  · left
    rw [lower_of_not_upper a ha, lower_of_not_upper b hb] at h
    exact h

theorem mem_trimDot (s : Bytes) (b : UInt8) (h : b ∈ trimDot s) : b ∈ s := by
  unfold trimDot at h
  split at h
  · exact List.dropLast_subset _ h
  · exact h

/-- A name without upper-case letters is only stripped of its dot (the "already lower case" path:
nothing else may change, whatever other bytes the name holds). -/
theorem norm_no_upper (s : Bytes) (h : ∀ b ∈ s, ¬ (65 ≤ b ∧ b ≤ 90)) : norm s = trimDot s := by
  unfold norm
  have : ∀ b ∈ trimDot s, lower b = b := fun b hb => lower_of_not_upper b (h b (mem_trimDot s b hb))
  rw [List.map_congr_left this]
  simp

theorem norm_has_no_upper (s : Bytes) : ∀ b ∈ norm s, ¬ (65 ≤ b ∧ b ≤ 90) := by
  intro b hb
  unfold norm at hb
  obtain ⟨a, _, rfl⟩ := List.mem_map.mp hb
  exact not_upper_lower a

theorem norm_getElem? (s : Bytes) (i : Nat) : (norm s)[i]? = ((trimDot s)[i]?).map lower := by
  simp [norm]

/-- **Two spellings are the same name only if they differ in letter case alone**: equal
normal forms have the same length and, position by position, the same byte or the two cases of
one letter. -/
theorem norm_eq_bytes (s t : Bytes) (h : norm s = norm t) :
    (trimDot s).length = (trimDot t).length ∧
    ∀ (i : Nat) (a b : UInt8), (trimDot s)[i]? = some a → (trimDot t)[i]? = some b →
      a = b ∨ ((65 ≤ a ∧ a ≤ 90) ∧ b = a + 32) ∨ ((65 ≤ b ∧ b ≤ 90) ∧ a = b + 32) := by
  refine ⟨?_, ?_⟩
  · have := congrArg List.length h
    simpa [norm] using this
  · intro i a b ha hb
    have := congrArg (fun l => l[i]?) h
    simp only [norm_getElem?, ha, hb, Option.map_some, Option.some.injEq] at this
    exact lower_eq_lower a b this

/-- **Case does not matter**: a name (or full/domain/keyword rule) and its
lower-cased spelling normalise to the same string. -/
theorem norm_case (s : Bytes) : norm (s.map lower) = norm s := by
  unfold norm
  rw [trimDot_map_lower, List.map_map]
  exact List.map_congr_left fun b _ => lower_idem b

/-- **One trailing dot does not matter.** -/
theorem norm_trailing_dot (s : Bytes) (h : s.getLast? ≠ some dot) : norm (s ++ [dot]) = norm s := by
  unfold norm trimDot
  simp [h]

/-- Adding a rule only goes through `norm` (full, keyword) or `scan ∘ norm`
(domain): two spellings with the same `norm` are the same rule. -/
theorem add_normalised (m : Mix V) (k : Kind) (hk : k ≠ .regexp) (p p' : Bytes) (v : V)
    (h : norm p = norm p') : m.add k p v = m.add k p' v := by
  cases k with
  | regexp => exact absurd rfl hk
  | _ => simp only [Mix.add, h]

/-- `Match` only depends on the normalised name. -/
theorem match_normalised (m : Mix V) (re : Bytes → Bytes → Bool) (n n' : Bytes)
    (h : norm n = norm n') : m.candidates re n = m.candidates re n' := by
  unfold Mix.candidates; rw [h]

/-! ### Precedence in `MixMatcher.Match`: full > domain > regexp > keyword -/

theorem candidates_of_full {m : Mix V} (re : Bytes → Bytes → Bool) {name : Bytes} {p : Bytes × V}
    (hf : m.full.find? (fun p => p.1 == norm name) = some p) : m.candidates re name = [p.2] := by
  simp only [Mix.candidates, hf]

theorem candidates_of_domain {m : Mix V} (re : Bytes → Bytes → Bool) {name : Bytes} {v : V}
    (hf : m.full.find? (fun p => p.1 == norm name) = none) (hd : m.domain.matchPath (scan (norm name)) = some v) :
    m.candidates re name = [v] := by
  simp only [Mix.candidates, hf, hd]

theorem candidates_of_regexp {m : Mix V} {re : Bytes → Bytes → Bool} {name : Bytes}
    (hf : m.full.find? (fun p => p.1 == norm name) = none) (hd : m.domain.matchPath (scan (norm name)) = none)
    (hr : m.regexp.filter (fun p => re p.1 (norm name)) ≠ []) :
    m.candidates re name = (m.regexp.filter (fun p => re p.1 (norm name))).map (·.2) := by
  simp only [Mix.candidates, hf, hd]
  split
  · next h => exact h.symm
  · next h => exact absurd (List.map_eq_nil_iff.mp h) hr

theorem candidates_of_keyword {m : Mix V} {re : Bytes → Bytes → Bool} {name : Bytes}
    (hf : m.full.find? (fun p => p.1 == norm name) = none) (hd : m.domain.matchPath (scan (norm name)) = none)
    (hr : m.regexp.filter (fun p => re p.1 (norm name)) = []) :
    m.candidates re name = (m.keyword.filter (fun p => isInfix p.1 (norm name))).map (·.2) := by
  simp only [Mix.candidates, hf, hd, hr, List.map_nil]

theorem no_match_iff (m : Mix V) (re : Bytes → Bytes → Bool) (name : Bytes) :
    m.candidates re name = [] ↔
      m.full.find? (fun p => p.1 == norm name) = none ∧
      m.domain.matchPath (scan (norm name)) = none ∧
      (∀ p ∈ m.regexp, re p.1 (norm name) = false) ∧
      (∀ p ∈ m.keyword, isInfix p.1 (norm name) = false) := by
  cases hf : m.full.find? (fun p => p.1 == norm name) with
  | some p => simp only [candidates_of_full re hf, reduceCtorEq, false_and]
  | none =>
    cases hd : m.domain.matchPath (scan (norm name)) with
    | some v => simp only [candidates_of_domain re hf hd, reduceCtorEq, false_and, and_false]
    | none =>
      -- state the regexp and keyword conjuncts as `filter … = []`, the form the `candidates_of_` lemmas take
      simp only [← Bool.not_eq_true, ← List.filter_eq_nil_iff, true_and]
      by_cases hr : m.regexp.filter (fun p => re p.1 (norm name)) = []
      · simp only [candidates_of_keyword hf hd hr, List.map_eq_nil_iff, hr, true_and]
      · simp only [candidates_of_regexp hf hd hr, List.map_eq_nil_iff, hr, false_and]

/-! ### From the rule list to the `MixMatcher`: a set's own matcher matches iff some rule describes the name -/

/-- The property's reading of the four rule types, on the normalised name. `domain:` - the rule's labels
are the last labels of the name (a prefix of the right-to-left label sequence). -/
def describes (re : Bytes → Bytes → Bool) (r : Kind × Bytes) (name : Bytes) : Prop :=
  match r.1 with
  | .full => norm r.2 = norm name
  | .domain => scan (norm r.2) <+: scan (norm name)
  | .regexp => re r.2 (norm name) = true
  | .keyword => isInfix (norm r.2) (norm name) = true

def keys (l : List (Bytes × V)) : List Bytes := l.map (·.1)

theorem mem_keys {l : List (Bytes × V)} {k : Bytes} : k ∈ keys l ↔ ∃ p ∈ l, p.1 = k := List.mem_map

theorem exists_mem_keys {l : List (Bytes × V)} {P : Bytes → Prop} : (∃ k ∈ keys l, P k) ↔ ∃ p ∈ l, P p.1 :=
  Lemmas.List.exists_mem_map

theorem mem_keys_upsert (l : List (Bytes × V)) (k k' : Bytes) (v : V) :
    k' ∈ keys (upsert l k v) ↔ k' ∈ keys l ∨ k = k' := by
  unfold upsert keys
  split
  · next h =>
    obtain ⟨p, hp, hk⟩ := List.any_eq_true.mp h
    have : (l.map fun p => if p.1 == k then (k, v) else p).map (·.1) = l.map (·.1) := by
      rw [List.map_map]
      refine List.map_congr_left fun p _ => ?_
      simp only [Function.comp_apply, apply_ite Prod.fst, ite_eq_right_iff, beq_iff_eq]
      exact Eq.symm
    rw [this, or_iff_left_of_imp]
    rintro rfl
    exact List.mem_map.mpr ⟨p, hp, eq_of_beq hk⟩
  · rw [List.map_append, List.mem_append, List.map_singleton, List.mem_singleton, @eq_comm _ k' k]

theorem hit_iff (m : Mix V) (re : Bytes → Bytes → Bool) (name : Bytes) :
    m.hit re name = true ↔
      norm name ∈ keys m.full ∨ (∃ q, q <+: scan (norm name) ∧ m.domain.valueAt q ≠ none) ∨
      (∃ e ∈ keys m.regexp, re e (norm name) = true) ∨ (∃ k ∈ keys m.keyword, isInfix k (norm name) = true) := by
  have : m.hit re name = true ↔ ¬ m.candidates re name = [] := by simp [Mix.hit]
  -- negate `no_match_iff`: the four conjuncts "nothing matches" become the four disjuncts "something matches"
  rw [this, no_match_iff, matchPath_eq_longest, longest_eq_none, List.find?_eq_none, mem_keys]
  simp only [Classical.not_and_iff_not_or_not, Classical.not_forall, beq_iff_eq, Bool.not_eq_false, exists_prop,
    Classical.not_not, exists_mem_keys, ne_eq]

theorem valueAt_add_ne_none (t : Trie V) (p q : List Label) (v : V) :
    (t.add p v).valueAt q ≠ none ↔ t.valueAt q ≠ none ∨ q = p := by
  rw [valueAt_add]
  split <;> simp [*]

/-- **Adding a rule adds exactly the names it describes**, whatever the matcher held before. -/
theorem hit_add (m : Mix V) (re : Bytes → Bytes → Bool) (k : Kind) (p : Bytes) (v : V) (name : Bytes) :
    (m.add k p v).hit re name = true ↔ m.hit re name = true ∨ describes re (k, p) name := by
  simp only [hit_iff, describes]
  cases k <;> simp only [Mix.add, mem_keys_upsert, valueAt_add_ne_none, or_and_right, and_or_left, exists_or,
    exists_eq_left', exists_eq_right]
  -- what is left is to move the rule's disjunct from the place of its sub-matcher to the end
  · exact or_right_comm
  · rw [or_right_comm]; simp only [or_assoc]
  · rw [or_right_comm]; simp only [or_assoc]
  · simp only [or_assoc]

theorem hit_empty (re : Bytes → Bytes → Bool) (name : Bytes) : ({} : Mix V).hit re name = false := by
  rw [← Bool.not_eq_true, hit_iff]
  simp [keys, valueAt_empty]

theorem hit_foldl (re : Bytes → Bytes → Bool) (name : Bytes) (rs : List (Kind × Bytes)) (m : Mix Unit) :
    (rs.foldl (fun m r => m.add r.1 r.2 ()) m).hit re name = true ↔
      m.hit re name = true ∨ ∃ r ∈ rs, describes re r name := by
  induction rs generalizing m with
  | nil => simp
  | cons r rs ih => simp [ih, hit_add, or_assoc]

/-- **C12 (first sentence).** A `MixMatcher` loaded with any list of rules matches a name if and only
if some rule of the list describes the name. -/
theorem rules_hit_iff (re : Bytes → Bytes → Bool) (rs : List (Kind × Bytes)) (name : Bytes) :
    (mixOfRules rs).hit re name = true ↔ ∃ r ∈ rs, describes re r name := by
  rw [mixOfRules, hit_foldl, hit_empty, Bool.false_eq_true, false_or]

/-! ### Sets assembled from other sets (`data_provider/domain_set`) -/

/-- Some set reachable from set `i` through `sets:` (itself included) matches
the name with its own rules. -/
inductive Reach (defs : List SetDef) (name : Bytes) : Nat → Prop
  | own {i : Nat} {d : SetDef} : defs[i]? = some d → d.own name = true → Reach defs name i
  | ref {i j : Nat} {d : SetDef} : defs[i]? = some d → j ∈ d.refs → Reach defs name j → Reach defs name i

/-- the `sets:` half of `newSet_spec`, where `P` is "matches the name" and `Q` "reaches a set that does" -/
theorem exists_mem_lookupAll {built : List SetMatcher} {js : List Nat} {rs : List SetMatcher}
    (h : lookupAll built js = some rs) {P : SetMatcher → Prop} {Q : Nat → Prop}
    (hPQ : ∀ j f, built[j]? = some f → (P f ↔ Q j)) : (∃ f ∈ rs, P f) ↔ ∃ j ∈ js, Q j := by
  induction js generalizing rs with
  | nil => cases h; simp
  | cons j js ih =>
    rw [lookupAll] at h
    split at h
    next m ms hj hl => cases h; simp [hPQ j m hj, ih hl]
    next => cases h

theorem reach_iff {defs : List SetDef} {name : Bytes} {i : Nat} {d : SetDef} (hd : defs[i]? = some d) :
    Reach defs name i ↔ d.own name = true ∨ ∃ j ∈ d.refs, Reach defs name j := by
  constructor
  · rintro (⟨hd', ho⟩ | ⟨hd', hj, hr⟩) <;> cases hd.symm.trans hd'
    · exact .inl ho
    · exact .inr ⟨_, hj, hr⟩
  · rintro (ho | ⟨j, hj, hr⟩)
    · exact .own hd ho
    · exact .ref hd hj hr

/-- the matcher `NewDomainSet` returns for the next set (position `built.length`), given that the matchers
of the sets before it are right -/
theorem newSet_spec (all : List SetDef) (name : Bytes)
    (hkept : ∀ d ∈ all, d.kept = false → d.own name = false)
    (built : List SetMatcher) (d : SetDef) (m : SetMatcher)
    (hd : all[built.length]? = some d)
    (hb : ∀ i f, built[i]? = some f → (f name = true ↔ Reach all name i))
    (hm : newSet built d = some m) : m name = true ↔ Reach all name built.length := by
  unfold newSet at hm
  split at hm
  next => cases hm
  next rs hl =>
    cases hm
    have hown : (d.kept = true ∧ d.own name = true) ↔ d.own name = true :=
      and_iff_right_of_imp fun ho => Bool.of_not_eq_false fun hk => by
        rw [hkept d (List.mem_of_getElem? hd) hk] at ho; cases ho
    have hrefs : (∃ f ∈ rs, f name = true) ↔ ∃ j ∈ d.refs, Reach all name j := exists_mem_lookupAll hl hb
    rw [reach_iff hd, ← hown, ← hrefs]
    cases d.kept <;> simp [groupMatch]

theorem buildSets_eq_run (built : List SetMatcher) (ds : List SetDef) :
    buildSets built ds = Lts.run (fun b d => (newSet b d).map (b ++ [·])) built ds := by
  fun_induction buildSets built ds <;> simp only [Lts.run, Option.map_none, Option.map_some, *]

theorem forall_getElem?_snoc {α : Type} {l : List α} {x : α} {P : Nat → α → Prop}
    (hl : ∀ i a, l[i]? = some a → P i a) (hx : P l.length x) : ∀ i a, (l ++ [x])[i]? = some a → P i a := by
  intro i a h
  have hi : i < l.length + 1 := by simpa using (List.getElem?_eq_some_iff.mp h).1
  rcases Nat.lt_succ_iff_lt_or_eq.mp hi with hi | rfl
  · exact hl i a (by rwa [List.getElem?_append_left hi] at h)
  · rw [List.getElem?_concat_length] at h
    cases h; exact hx

theorem sets_match (defs : List SetDef) (name : Bytes) (ms : List SetMatcher)
    (hkept : ∀ d ∈ defs, d.kept = false → d.own name = false)
    (h : buildSets [] defs = some ms) :
    ms.length = defs.length ∧ ∀ i f, ms[i]? = some f → (f name = true ↔ Reach defs name i) := by
  rw [buildSets_eq_run] at h
  -- the invariant of `run_trace_inv` sees the sets done so far, not all of `defs`: the premise `done <+: defs` is what
  -- tells the step that the next set is `defs[built.length]`; it is discharged at the end, where `done = defs`
  refine Lts.run_trace_inv (P := fun done built => done <+: defs → built.length = done.length ∧
    ∀ i f, built[i]? = some f → (f name = true ↔ Reach defs name i)) ?_ [] (fun _ => ⟨rfl, by simp⟩) h List.prefix_rfl
  intro done built d built' ih hstep hpre
  obtain ⟨m, hm, rfl⟩ := Option.map_eq_some_iff.mp hstep
  obtain ⟨hlen, hb⟩ := ih ((List.prefix_append _ _).trans hpre)
  have hd : defs[built.length]? = some d := by obtain ⟨t, rfl⟩ := hpre; simp [hlen]
  exact ⟨by simp [hlen], forall_getElem?_snoc hb (newSet_spec defs name hkept built d m hd hb hm)⟩

/-! `Len() > 0` as soon as there is a rule -/

theorem subLen_add_pos (path : List Label) (v : V) : ∀ (t : Trie V), 0 < (t.add path v).subLen true := by
  induction path with
  | nil => intro t; simp [Trie.add, Trie.subLen, Trie.val]
  | cons l ls ih =>
    intro t
    -- the new child's `subLen` (its `len`, plus one for its own value) is a summand of the parent's `len`
    have hc := ih ((t.child l).getD Trie.empty)
    unfold Trie.subLen at hc ⊢
    simp only [Trie.add, Trie.setChild, Trie.len, Trie.lenKids]
    exact Nat.add_pos_left (Nat.add_pos_left hc _) _

theorem upsert_length_pos (l : List (Bytes × V)) (k : Bytes) (v : V) : 0 < (upsert l k v).length := by
  have : k ∈ keys (upsert l k v) := (mem_keys_upsert l k k v).mpr (.inr rfl)
  simpa [keys] using List.length_pos_of_mem this

theorem len_add_pos (m : Mix V) (k : Kind) (p : Bytes) (v : V) : 0 < (m.add k p v).len := by
  -- `len` is a sum of four, and the summand of the sub-matcher that took the rule is positive
  unfold Mix.len Mix.lenWith
  cases k
  case full => exact Nat.add_pos_left (Nat.add_pos_left (Nat.add_pos_left (upsert_length_pos ..) _) _) _
  case domain => exact Nat.add_pos_left (Nat.add_pos_left (Nat.add_pos_right _ (subLen_add_pos ..)) _) _
  case regexp => exact Nat.add_pos_left (Nat.add_pos_right _ (upsert_length_pos ..)) _
  case keyword => exact Nat.add_pos_right _ (upsert_length_pos ..)

theorem len_pos_of_rule (rs : List (Kind × Bytes)) (r : Kind × Bytes) (hr : r ∈ rs) : 0 < (mixOfRules rs).len := by
  obtain ⟨rs', r', rfl⟩ := (List.eq_nil_or_concat rs).resolve_left (List.ne_nil_of_mem hr)
  rw [mixOfRules, List.concat_eq_append, List.foldl_append]
  exact len_add_pos ..

/-- Some rule of set `i`, or of a set it references directly or through other sets, describes the name. -/
inductive SomeRule (re : Bytes → Bytes → Bool) (cfgs : List (List (Kind × Bytes) × List Nat)) (name : Bytes) : Nat → Prop
  | own {i : Nat} {c : List (Kind × Bytes) × List Nat} {r : Kind × Bytes} :
      cfgs[i]? = some c → r ∈ c.1 → describes re r name → SomeRule re cfgs name i
  | ref {i j : Nat} {c : List (Kind × Bytes) × List Nat} :
      cfgs[i]? = some c → j ∈ c.2 → SomeRule re cfgs name j → SomeRule re cfgs name i

theorem reach_iff_someRule (re : Bytes → Bytes → Bool) (cfgs : List (List (Kind × Bytes) × List Nat)) (name : Bytes) (i : Nat) :
    Reach (cfgs.map (defOfRules re)) name i ↔ SomeRule re cfgs name i := by
  have hget : ∀ {i : Nat} {d}, (cfgs.map (defOfRules re))[i]? = some d ↔ ∃ c, cfgs[i]? = some c ∧ defOfRules re c = d := by
    simp only [List.getElem?_map, Option.map_eq_some_iff, implies_true]
  constructor
  · intro h
    induction h with
    | own hd ho =>
      obtain ⟨c, hc, rfl⟩ := hget.mp hd
      obtain ⟨r, hr, hdesc⟩ := (rules_hit_iff re c.1 name).mp ho
      exact .own hc hr hdesc
    | ref hd hj _ ih =>
      obtain ⟨c, hc, rfl⟩ := hget.mp hd
      exact .ref hc hj ih
  · intro h
    induction h with
    | own hc hr hdesc => exact .own (hget.mpr ⟨_, hc, rfl⟩) ((rules_hit_iff re _ name).mpr ⟨_, hr, hdesc⟩)
    | ref hc hj _ ih => exact .ref (hget.mpr ⟨_, hc, rfl⟩) hj ih

theorem kept_of_own (re : Bytes → Bytes → Bool) (c : List (Kind × Bytes) × List Nat) (name : Bytes)
    (h : (defOfRules re c).own name = true) : (defOfRules re c).kept = true := by
  obtain ⟨r, hr, _⟩ := (rules_hit_iff re c.1 name).mp h
  simp only [defOfRules, decide_eq_true_eq]
  exact len_pos_of_rule c.1 r hr

/-- **C12 for `domain_set` plugins.** Any configuration of sets (own rules of
the four types plus references to sets built earlier, to any depth, sets
shared between several others), built in configuration order: the set at
position `i` matches a name if and only if some rule of the set itself or of
a set it references, directly or through other sets, describes the name.
(That the own matcher is kept only if `Len() > 0` loses nothing:
`len_pos_of_rule`. With the `Len` of the tree before the fix of finding F14
it did: `old_len_dropped_root_only_sets`.) -/
theorem domain_sets_match (re : Bytes → Bytes → Bool) (cfgs : List (List (Kind × Bytes) × List Nat))
    (name : Bytes) (ms : List SetMatcher)
    (h : buildSets [] (cfgs.map (defOfRules re)) = some ms) :
    ms.length = cfgs.length ∧ ∀ i f, ms[i]? = some f → (f name = true ↔ SomeRule re cfgs name i) := by
  have hkept : ∀ d ∈ cfgs.map (defOfRules re), d.kept = false → d.own name = false := by
    intro d hd hk
    obtain ⟨c, _, rfl⟩ := List.mem_map.mp hd
    exact Bool.eq_false_iff.mpr fun ho => by simp [kept_of_own re c name ho] at hk
  obtain ⟨h1, h2⟩ := sets_match _ name ms hkept h
  exact ⟨by simpa using h1, fun i f hf => by rw [h2 i f hf, reach_iff_someRule]⟩

/-! ### Tables of rules with values (`hosts`): every line's rule is used as written -/

theorem mem_hostsRules (rw : Bytes → Bytes) (dflt : Option Kind) {fields : List Bytes} {rs : List (Kind × Bytes)}
    (h : hostsRules rw dflt fields = some rs) (r : Kind × Bytes) :
    r ∈ rs ↔ ∃ f ∈ fields, splitRule dflt (rw f) = some r := by
  induction fields generalizing rs with
  | nil => cases h; simp
  | cons f fs ih =>
    rw [hostsRules] at h
    split at h
    next r0 rs0 hf hr =>
      cases h
      simp only [List.mem_cons, ih hr, exists_eq_or_imp, hf, Option.some.injEq, @eq_comm _ r r0]
    next => cases h

/-- **C12 for a hosts table.** When the parser hands every line's first field to `Add` as written
(`rw = id`, fact `c12HostsRuleAsWritten`), the table matches a name iff the rule written on some line
(type prefix or the table's default type) describes it - for a `regexp:` line: iff the expression as
written matches the normalised name. -/
theorem hosts_table_hit_iff (re : Bytes → Bytes → Bool) (dflt : Option Kind) (fields : List Bytes)
    (rs : List (Kind × Bytes)) (h : hostsRules id dflt fields = some rs) (name : Bytes) :
    (mixOfRules rs).hit re name = true ↔ ∃ f ∈ fields, ∃ r, splitRule dflt f = some r ∧ describes re r name := by
  simp only [rules_hit_iff, mem_hostsRules id dflt h, id]
  constructor
  · rintro ⟨r, ⟨f, hf, hs⟩, hd⟩
    exact ⟨f, hf, r, hs, hd⟩
  · rintro ⟨f, hf, r, hs, hd⟩
    exact ⟨r, ⟨f, hf, hs⟩, hd⟩

/-- Why the rule must be taken as written: a parser that lower-cases the field (`rw = map lower`,
harmless for full / domain / keyword rules, which are normalised anyway: `add_normalised`) turns the
line `regexp:^\D` into the rule `^\d`, another expression. With an engine `re` on which `^\D`
matches `a` and `^\d` does not, the written rule describes the name `a` and the loaded table does
not match it. -/
theorem lowercasing_parser_rewrites_regexps :
    let line : Bytes := [114, 101, 103, 101, 120, 112, 58, 94, 92, 68]        -- regexp:^\D
    let e : Bytes := [94, 92, 68]                                              -- ^\D
    let name : Bytes := [97]                                                   -- a
    let re : Bytes → Bytes → Bool := fun x n => x == e && n == name
    hostsRules id (some .full) [line] = some [(.regexp, e)] ∧
    hostsRules (·.map lower) (some .full) [line] = some [(.regexp, [94, 92, 100])] ∧
    (mixOfRules [(.regexp, e)]).hit re name = true ∧
    (mixOfRules [(Kind.regexp, ([94, 92, 100] : Bytes))]).hit re name = false := by
  decide

/-- Finding F14, as a witness about the old `Len` (`SubDomainMatcher.Len = m.root.len()`, the root's
own value not counted): a set whose only rule is the rule for the root - `domain:.` describes every
name - had `Len() = 0`, so `NewDomainSet` dropped its matcher and the set matched nothing. With the
repaired `Len` the same set counts one rule. -/
theorem old_len_dropped_root_only_sets (re : Bytes → Bytes → Bool) (name : Bytes) :
    describes re (.domain, [dot]) name ∧
    (mixOfRules [(.domain, [dot])]).lenWith false = 0 ∧ (mixOfRules [(.domain, [dot])]).len = 1 := by
  refine ⟨?_, by decide, by decide⟩
  show scan (norm [dot]) <+: _
  have : scan (norm [dot]) = [] := by decide
  rw [this]; exact List.nil_prefix

namespace Slices

/-! ### Why a set's group slice must be its own: Go slices over shared backing arrays

`GetDomainMatcher` hands out `MatcherGroup(d.mg)`: a slice header over the provider's backing array.
`append` writes in place whenever that array has room beyond the slice's length, and every other
header over the same array sees the write. Members are numbers here (which matcher); the heap is the
list of backing arrays, a slice is (array, length) with offset 0, its capacity is the array's size.
Array 0 is the empty array of the nil slice. -/

structure Slice where
  arr : Nat
  len : Nat
  deriving DecidableEq, Repr

abbrev Heap := List (List Nat)

def nil : Slice := ⟨0, 0⟩
def cap (h : Heap) (s : Slice) : Nat := (h.getD s.arr []).length
def view (h : Heap) (s : Slice) : List Nat := (h.getD s.arr []).take s.len

/-- `append(s, x)`; `grow n` = how many spare slots a reallocation from length `n` leaves (any policy). -/
def append (grow : Nat → Nat) (h : Heap) (s : Slice) (x : Nat) : Heap × Slice :=
  if s.len < cap h s then (h.set s.arr ((h.getD s.arr []).set s.len x), ⟨s.arr, s.len + 1⟩)
  else (h ++ [view h s ++ x :: List.replicate (grow s.len) 0], ⟨h.length, s.len + 1⟩)

/-- `ds.mg = append(ds.mg, m)` for every member, starting from the nil slice of a fresh `DomainSet`
(what `c12SetGroupOwned` says the constructor does). -/
def buildOwned (grow : Nat → Nat) (h : Heap) (members : List Nat) : Heap × Slice :=
  members.foldl (fun hs x => append grow hs.1 hs.2 x) (h, nil)

/-- the sets of a configuration one after the other, each given by its members -/
def buildAllOwned (grow : Nat → Nat) : Heap → List (List Nat) → Heap × List Slice
  | h, [] => (h, [])
  | h, ms :: rest =>
    let r := buildOwned grow h ms
    let r' := buildAllOwned grow r.1 rest
    (r'.1, r.2 :: r'.2)

/-- state of one set under construction: nothing below `h0.length` (the arrays that existed before) has
changed, and the set's slice is either still nil or lives in an array of its own -/
structure Inv (h0 h : Heap) (s : Slice) (done : List Nat) : Prop where
  len_le : h0.length ≤ h.length
  frame : ∀ a, a < h0.length → h.getD a [] = h0.getD a []
  wf : s.len ≤ cap h s
  view_eq : view h s = done
  own : (s.arr = 0 ∧ s.len = 0) ∨ (h0.length ≤ s.arr ∧ s.arr < h.length)

theorem getD_set_ne {i a : Nat} (hne : a ≠ i) (h : Heap) (v : List Nat) : (h.set i v).getD a [] = h.getD a [] := by
  simp [List.getD_eq_getElem?_getD, List.getElem?_set_ne (Ne.symm hne)]

theorem getD_set_self {h : Heap} {i : Nat} (hi : i < h.length) (v : List Nat) : (h.set i v).getD i [] = v := by
  simp [List.getD_eq_getElem?_getD, hi]

theorem getD_append_left {h : Heap} {a : Nat} (ha : a < h.length) (v : List Nat) : (h ++ [v]).getD a [] = h.getD a [] := by
  simp [List.getD_eq_getElem?_getD, List.getElem?_append_left ha]

theorem getD_append_self (h : Heap) (v : List Nat) : (h ++ [v]).getD h.length [] = v := by
  simp [List.getD_eq_getElem?_getD]

theorem take_set_succ {a : List Nat} {n : Nat} (hn : n < a.length) (x : Nat) : (a.set n x).take (n + 1) = a.take n ++ [x] := by
  rw [List.take_succ_eq_append_getElem (by simpa using hn), List.take_set_of_le (Nat.le_refl n), List.getElem_set_self]

theorem inv_step (grow : Nat → Nat) (h0 h : Heap) (s : Slice) (done : List Nat) (x : Nat)
    (h00 : h0.getD 0 [] = []) (hpos : 0 < h0.length) (inv : Inv h0 h s done) :
    Inv h0 (append grow h s x).1 (append grow h s x).2 (done ++ [x]) := by
  obtain ⟨hle, hfr, hwf, hv, hown⟩ := inv
  unfold append
  split
  next hroom =>
    -- in place: only possible in an array of the set's own, array 0 of the nil slice having no room
    have ⟨hlo, hhi⟩ : h0.length ≤ s.arr ∧ s.arr < h.length := hown.resolve_left fun hnil => by
      rw [cap, hnil.1, hfr 0 hpos, h00] at hroom
      exact Nat.not_lt_zero _ hroom
    refine { len_le := by rwa [List.length_set], frame := fun a ha => ?_, wf := ?_, view_eq := ?_,
             own := .inr ⟨hlo, by rwa [List.length_set]⟩ }
    · rw [getD_set_ne (Nat.ne_of_lt (Nat.lt_of_lt_of_le ha hlo)), hfr a ha]
    · rw [cap, getD_set_self hhi, List.length_set]
      exact hroom
    · rw [view, getD_set_self hhi, take_set_succ hroom, ← hv]
      rfl
  next hroom =>
    -- reallocated: the members move to a new array at the end of the heap
    have hlen : (view h s).length = s.len := by rw [view, List.length_take]; exact Nat.min_eq_left hwf
    refine { len_le := Nat.le_trans hle (by simp), frame := fun a ha => ?_, wf := ?_, view_eq := ?_,
             own := .inr ⟨hle, by simp⟩ }
    · rw [getD_append_left (Nat.lt_of_lt_of_le ha hle), hfr a ha]
    · rw [cap, getD_append_self, List.length_append, List.length_cons, hlen]
      exact Nat.add_le_add_left (Nat.le_add_left ..) _
    · rw [view, getD_append_self, ← hlen, List.take_length_add_append, List.take_succ_cons, List.take_zero, hv]

theorem inv_init (h0 : Heap) : Inv h0 h0 nil [] :=
  { len_le := Nat.le_refl _, frame := fun _ _ => rfl, wf := Nat.zero_le _, view_eq := by simp [view, nil],
    own := .inl ⟨rfl, rfl⟩ }

theorem buildOwned_inv (grow : Nat → Nat) (h0 : Heap) (h00 : h0.getD 0 [] = []) (hpos : 0 < h0.length) (ms : List Nat) :
    Inv h0 (buildOwned grow h0 ms).1 (buildOwned grow h0 ms).2 ms := by
  simpa [buildOwned] using Lts.foldl_trace_inv (P := fun done (hs : Heap × Slice) => Inv h0 hs.1 hs.2 done)
    (fun done hs x => inv_step grow h0 hs.1 hs.2 done x h00 hpos) [] (inv_init h0) ms

/-- **Sets that own their group slice keep their members.** However many sets are built one after
the other, each by appending its members one at a time to its own (initially nil) slice, and whatever
the growth policy of `append`: in the final heap every set's slice still shows exactly the members it
was given. -/
theorem owned_sets_keep_their_members (grow : Nat → Nat) : ∀ (mss : List (List Nat)) (h0 : Heap),
    h0.getD 0 [] = [] → 0 < h0.length →
    (buildAllOwned grow h0 mss).2.length = mss.length ∧
    h0.length ≤ (buildAllOwned grow h0 mss).1.length ∧
    (∀ a, a < h0.length → (buildAllOwned grow h0 mss).1.getD a [] = h0.getD a []) ∧
    ∀ (i : Nat) (s : Slice) (ms : List Nat), (buildAllOwned grow h0 mss).2[i]? = some s → mss[i]? = some ms →
      view (buildAllOwned grow h0 mss).1 s = ms := by
  intro mss
  induction mss with
  | nil => intro h0 _ _; simp [buildAllOwned]
  | cons ms rest ih =>
    intro h0 h00 hpos
    have first := buildOwned_inv grow h0 h00 hpos ms
    have hle := first.len_le
    obtain ⟨rest_len, rest_le, rest_frame, rest_view⟩ :=
      ih (buildOwned grow h0 ms).1 (by rw [first.frame 0 hpos, h00]) (Nat.lt_of_lt_of_le hpos hle)
    simp only [buildAllOwned]
    refine ⟨by simp [rest_len], Nat.le_trans hle rest_le,
      fun a ha => by rw [rest_frame a (Nat.lt_of_lt_of_le ha hle), first.frame a ha], fun i s ms' hs hms => ?_⟩
    cases i with
    | succ i => exact rest_view i s ms' hs hms
    | zero =>
      -- the first set's array exists before the others are built, so they leave it alone
      cases hs; cases hms
      have harr : (buildOwned grow h0 ms).2.arr < (buildOwned grow h0 ms).1.length :=
        first.own.elim (fun hnil => hnil.1 ▸ Nat.lt_of_lt_of_le hpos hle) (·.2)
      rw [view, rest_frame _ harr]
      exact first.view_eq

theorem owned_view (grow : Nat → Nat) (mss : List (List Nat)) (i : Nat) (s : Slice) (ms : List Nat)
    (hs : (buildAllOwned grow [[]] mss).2[i]? = some s) (hms : mss[i]? = some ms) :
    view (buildAllOwned grow [[]] mss).1 s = ms :=
  (owned_sets_keep_their_members grow mss [[]] rfl (by decide)).2.2.2 i s ms hs hms

/-- Go's growth for small slices: capacity 1, 2, 4, 8, ... (`append` reallocates only at `len = cap = n`, and the new
array has `n + 1 + goGrow n` slots: 1 from the nil slice, `2 * n` after that). -/
def goGrow (n : Nat) : Nat := n - 1

/-- a constructor in which a set that has nothing of its own yet takes the first referenced group's slice as it is
and appends the further members to it -/
def buildSharing (grow : Nat → Nat) (h : Heap) (first : Slice) (more : List Nat) : Heap × Slice :=
  more.foldl (fun hs x => append grow hs.1 hs.2 x) (h, first)

/-- Under `buildSharing`: a base of three members (capacity 4), `direct` = base + member 20,
`blocked` = base + member 30, built in this order. Both appends go into the spare slot of the base's
array: `direct` ends up with `blocked`'s member. With slices of their own (copying the base's
members) both sets are what they were given. -/
theorem shared_group_slice_mixes_sets_up :
    let b := buildOwned goGrow [[]] [10, 11, 12]
    let d1 := buildSharing goGrow b.1 b.2 [20]
    let d2 := buildSharing goGrow d1.1 b.2 [30]
    view d1.1 d1.2 = [10, 11, 12, 20] ∧ view d2.1 d1.2 = [10, 11, 12, 30] ∧ view d2.1 d2.2 = [10, 11, 12, 30] ∧
    view d2.1 b.2 = [10, 11, 12] ∧
    (let r := buildAllOwned goGrow [[]] [[10, 11, 12], [10, 11, 12, 20], [10, 11, 12, 30]]
     r.2.map (view r.1) = [[10, 11, 12], [10, 11, 12, 20], [10, 11, 12, 30]]) := by decide

end Slices

/-! The regenerated facts are the ones the model was written from: the build fails when the source departs from them. -/
theorem facts_guard :
    Gen.Facts.c12WalkUpdatesOnlyIfHasValue = some true ∧
    Gen.Facts.c12MixOrder = some true ∧
    Gen.Facts.c12KeywordUsesContains = some true ∧
    Gen.Facts.c12NormalizeLowerTrim = some true ∧
    Gen.Facts.c12SubMatchersNormalize = some true ∧
    -- domain_set: the shape `newSet` / `Trie.len` / `groupMatch` were written from, and the ownership of
    -- the group slice that `Slices.owned_sets_keep_their_members` needs
    Gen.Facts.c12SetMembersOwnThenSets = some true ∧
    Gen.Facts.c12GroupMatchIsAny = some true ∧
    Gen.Facts.c12LenCountsValuedNodesAndRoot = some true ∧
    Gen.Facts.c12SetGroupOwned = some true ∧
    -- qname / cname matchers (base_domain.NewMatcher) assemble their group the same owning way
    Gen.Facts.c12MatcherGroupOwned = some true ∧
    -- the hosts plugin hands every parsed rule to the MixMatcher it answers from (`loadHosts (fun _ => true)`)
    Gen.Facts.c12HostsLoadsEveryRule = some true ∧
    -- rules with values: hosts.ParseIPs returns the first field as written (`hostsRules id`,
    -- `hosts_table_hit_iff`); the text loader gives every line a string of its own (the maps and the trie
    -- keep substrings of it: the model's rule lists hold values, not views into a read buffer)
    Gen.Facts.c12HostsRuleAsWritten = some true ∧
    Gen.Facts.c12LoaderOwnsLineStrings = some true := by decide

/-- On this tree the constructor of `domain_set` is the owning one (`c12SetGroupOwned`: every write to
a set's group is `ds.mg = append(ds.mg, m)` onto the new set's own slice): whatever sets a configuration
builds, in whatever order, each one's group holds exactly the members it was given, for every growth
policy of `append`. -/
theorem sets_keep_their_members_on_this_tree (grow : Nat → Nat) (mss : List (List Nat)) :
    Gen.Facts.c12SetGroupOwned = some true ∧
    ∀ (i : Nat) (s : Slices.Slice) (ms : List Nat),
      (Slices.buildAllOwned grow [[]] mss).2[i]? = some s → mss[i]? = some ms →
        Slices.view (Slices.buildAllOwned grow [[]] mss).1 s = ms :=
  ⟨by decide, Slices.owned_view grow mss⟩

/-! ### Non-vacuity: "example.com" with rules domain:example.com=1, domain:a.b.example.com=2,
full:example.com=3, keyword:xam=4; names on and off label boundaries. -/
def b (s : List Nat) : Bytes := s.map UInt8.ofNat
def exampleCom : Bytes := b [101, 120, 97, 109, 112, 108, 101, 46, 99, 111, 109]       -- "example.com"
def abExampleCom : Bytes := b [97, 46, 98, 46] ++ exampleCom                             -- "a.b.example.com"
def bExampleCom : Bytes := b [98, 46] ++ exampleCom                                      -- "b.example.com"
def notexampleCom : Bytes := b [110, 111, 116] ++ exampleCom                             -- "notexample.com"
def m0 : Mix Nat := (((({} : Mix Nat).add .domain exampleCom 1).add .domain abExampleCom 2).add .keyword (b [120, 97, 109]) 4)
def reNone : Bytes → Bytes → Bool := fun _ _ => false
example : m0.candidates reNone bExampleCom = [1] := by decide          -- value-less node `b` keeps the shallower match
example : m0.candidates reNone abExampleCom = [2] := by decide         -- longest wins
example : m0.candidates reNone (b [88, 46] ++ abExampleCom ++ [46]) = [2] := by decide  -- "X.a.b.example.com."
example : m0.candidates reNone notexampleCom = [4] := by decide        -- not a label boundary: only the keyword matches
example : (m0.add .full (b [69, 88, 65, 77, 80, 76, 69, 46, 67, 79, 77, 46]) 3).candidates reNone exampleCom = [3] := by decide -- "EXAMPLE.COM." full rule wins
example : m0.candidates reNone (b [99, 111, 109]) = [] := by decide

/-! Service labels (`_tcp`) with mixed case on either side, and the bytes lower-casing must not touch:
rules domain:example.com=1, domain:_TCP.Example.com.=5. -/
def tcpExampleCom : Bytes := b [95, 84, 67, 80, 46, 69, 120, 97, 109, 112, 108, 101, 46, 99, 111, 109, 46]
def m1 : Mix Nat := ((({} : Mix Nat).add .domain exampleCom 1).add .domain tcpExampleCom 5)
-- "Host._tcp.EXAMPLE.com.": the underscore behind an upper-case letter is still an underscore
example : m1.candidates reNone (b [72, 111, 115, 116, 46, 95, 116, 99, 112, 46, 69, 88, 65, 77, 80, 76, 69, 46, 99, 111, 109, 46]) = [5] := by decide
-- "Host.\x7ftcp.example.com": DEL is not an underscore, only the shorter rule describes the name
example : m1.candidates reNone (b [72, 111, 115, 116, 46, 127, 116, 99, 112, 46] ++ exampleCom) = [1] := by decide
-- "A@[\]^_`{-09Z." -> "a@[\]^_`{-09z"
example : norm (b [65, 64, 91, 92, 93, 94, 95, 96, 123, 45, 48, 57, 90, 46]) = b [97, 64, 91, 92, 93, 94, 95, 96, 123, 45, 48, 57, 122] := by decide

/-! ### Rules whose value is the empty address list (hosts tables)

A hosts line without address is a rule with a value (the empty list). It takes part in the precedence of
values like every other rule: a name whose most specific rule has no address gets that value, i.e. no
answer, not the value of a less specific rule. -/

/-- A hosts table loader: every parsed line `(kind, pattern, addresses)` goes to `Add` unless `keep`
rejects its value. The plugin's loader keeps everything (fact `c12HostsLoadsEveryRule`). -/
def loadHosts (keep : List Nat → Bool) (m : Mix (List Nat)) : List (Kind × Bytes × List Nat) → Mix (List Nat)
  | [] => m
  | (k, p, v) :: rs => loadHosts keep (if keep v then m.add k p v else m) rs

/-- The loader that keeps everything is `Add` line by line: the matcher is the one `candidates_of_full` ... `_keyword`,
`no_match_iff` and `hosts_table_hit_iff` speak about, loaded with every rule of the table. -/
theorem loadHosts_all (m : Mix (List Nat)) (rs : List (Kind × Bytes × List Nat)) :
    loadHosts (fun _ => true) m rs = rs.foldl (fun m r => m.add r.1 r.2.1 r.2.2) m := by
  induction rs generalizing m with
  | nil => rfl
  | cons r rs ih => obtain ⟨k, p, v⟩ := r; simp [loadHosts, ih]

theorem hosts_loader_keeps_every_rule_on_this_tree (m : Mix (List Nat)) (rs : List (Kind × Bytes × List Nat)) :
    Gen.Facts.c12HostsLoadsEveryRule = some true ∧
    loadHosts (fun _ => true) m rs = rs.foldl (fun m r => m.add r.1 r.2.1 r.2.2) m :=
  ⟨by decide, loadHosts_all m rs⟩

/-- domain:example.com => [1], full:b.example.com => no address, keyword:xam => [4]. -/
def hostsTbl : List (Kind × Bytes × List Nat) :=
  [(.domain, exampleCom, [1]), (.full, bExampleCom, []), (.keyword, b [120, 97, 109], [4]), (.domain, abExampleCom, [])]

/-- The address-less full / deeper domain rule wins: the name gets the empty list. -/
theorem address_less_rule_shadows :
    (loadHosts (fun _ => true) {} hostsTbl).candidates reNone bExampleCom = [[]] ∧
    (loadHosts (fun _ => true) {} hostsTbl).candidates reNone (b [88, 46] ++ abExampleCom) = [[]] ∧
    (loadHosts (fun _ => true) {} hostsTbl).candidates reNone exampleCom = [[1]] := by decide

/-- A loader that drops rules without address answers these names from the broader rule. -/
theorem dropping_loader_answers_from_broader_rule :
    (loadHosts (fun v => !v.isEmpty) {} hostsTbl).candidates reNone bExampleCom = [[1]] ∧
    (loadHosts (fun v => !v.isEmpty) {} hostsTbl).candidates reNone (b [88, 46] ++ abExampleCom) = [[1]] := by decide

/-- The qname / cname matchers build their group like a set does (`c12MatcherGroupOwned`: the group starts
nil and every write is a one-member append onto the matcher's own slice), so `Slices.buildAllOwned` is
their constructor too: any number of matchers over shared sets keep exactly their own members. -/
theorem matchers_keep_their_members_on_this_tree (grow : Nat → Nat) (mss : List (List Nat)) :
    Gen.Facts.c12MatcherGroupOwned = some true ∧
    ∀ (i : Nat) (s : Slices.Slice) (ms : List Nat),
      (Slices.buildAllOwned grow [[]] mss).2[i]? = some s → mss[i]? = some ms →
        Slices.view (Slices.buildAllOwned grow [[]] mss).1 s = ms :=
  ⟨by decide, Slices.owned_view grow mss⟩

end Props.C12

import MosdnsVerif.Model.C13
import MosdnsVerif.Gen.Facts
import MosdnsVerif.Lemmas.List

/-!
# C13 — IP sets contain exactly the addresses their prefixes cover
-/
namespace Props.C13
open Model.C13

/-- Laminarity: two members either are disjoint or one lies inside the other.
(Stated for strictly ordered bases; equal bases need no condition.) -/
def Laminar (l : List Iv) : Prop :=
  ∀ p ∈ l, ∀ q ∈ l, p.lo < q.lo → q.lo < p.hi → q.hi ≤ p.hi

def SortedLo (l : List Iv) : Prop := l.Pairwise (fun p q => p.lo ≤ q.lo)

/-- Of the reversed output (newest first): every older member ends at or below the base of every newer one. -/
def Chain (out : List Iv) : Prop := out.Pairwise (fun n q => q.hi ≤ n.lo)

theorem containsRev_cons (iv : Iv) (t : List Iv) (a : Nat) :
    containsRev (iv :: t) a = if iv.lo ≤ a then iv.covers a else containsRev t a := by
  by_cases hle : iv.lo ≤ a <;> simp [containsRev, hle]

theorem containsRev_iff {out : List Iv} (hc : Chain out) (a : Nat) :
    containsRev out a = true ↔ ∃ q ∈ out, q.covers a = true := by
  induction out with
  | nil => simp [containsRev]
  | cons iv t ih =>
    obtain ⟨hiv, ht⟩ := List.pairwise_cons.mp hc
    simp only [containsRev_cons, List.mem_cons, exists_eq_or_imp]
    split
    · -- no older member reaches up to `iv.lo ≤ a`
      refine ⟨Or.inl, fun h => h.elim id fun ⟨q, hq, hcov⟩ => ?_⟩
      have := hiv q hq
      have : q.lo ≤ a ∧ a < q.hi := by simpa [Iv.covers] using hcov
      omega
    · rw [ih ht]
      refine ⟨Or.inr, fun h => h.elim (fun hcov => ?_) id⟩
      have : iv.lo ≤ a ∧ a < iv.hi := by simpa [Iv.covers] using hcov
      omega

/-- What the merge loop needs of the last kept `p` and the next `q`: ordered by base and, where `q` starts strictly
above `p`'s base, nested in `p` or disjoint from it (equal bases need no condition). -/
def Nested (p q : Iv) : Prop := p.lo ≤ q.lo ∧ (p.lo < q.lo → q.lo < p.hi → q.hi ≤ p.hi)

/-- Either the head `lv` is replaced by `lv` or `n` - same base, covering the union of the two -, or `n` is pushed and
lies above `lv`. -/
theorem mergeStep_cons {lv n : Iv} (rest : List Iv) (h : Nested lv n) :
    (∃ hd, mergeStep (lv :: rest) n = hd :: rest ∧ (hd = lv ∨ hd = n) ∧ hd.lo = lv.lo ∧
      ∀ a, hd.covers a = true ↔ lv.covers a = true ∨ n.covers a = true) ∨
    (mergeStep (lv :: rest) n = n :: lv :: rest ∧ lv.hi ≤ n.lo) := by
  obtain ⟨hle, hlam⟩ := h
  simp only [mergeStep, Iv.covers, Bool.and_eq_true, decide_eq_true_eq]
  split
  · next hlo =>
    split
    · exact .inl ⟨n, rfl, .inr rfl, hlo, by omega⟩
    · exact .inl ⟨lv, rfl, .inl rfl, rfl, by omega⟩
  · split
    · exact .inl ⟨lv, rfl, .inl rfl, rfl, by omega⟩
    · exact .inr ⟨rfl, by omega⟩

theorem mergeStep_spec {out : List Iv} {n : Iv} (hc : Chain out) (hn : ∀ lv ∈ out, Nested lv n) :
    Chain (mergeStep out n) ∧ (∀ r ∈ mergeStep out n, r = n ∨ r ∈ out) ∧
    ∀ a, (∃ q ∈ mergeStep out n, q.covers a = true) ↔ (∃ q ∈ out, q.covers a = true) ∨ n.covers a = true := by
  cases out with
  | nil => simp [mergeStep, Chain]
  | cons lv rest =>
    obtain ⟨hh, ht⟩ := List.pairwise_cons.mp hc
    rcases mergeStep_cons rest (hn lv List.mem_cons_self) with ⟨hd, e, hhd, hlo, hcov⟩ | ⟨e, h⟩ <;> rw [e]
    · refine ⟨List.pairwise_cons.mpr ⟨fun q hq => hlo ▸ hh q hq, ht⟩, ?_, fun a => ?_⟩
      · simp only [List.mem_cons]
        rintro r (rfl | hr)
        · exact hhd.symm.imp_right .inl
        · exact .inr (.inr hr)
      · simp only [List.mem_cons, exists_eq_or_imp, hcov, or_right_comm]
    · refine ⟨List.pairwise_cons.mpr ⟨?_, hc⟩, fun r => List.mem_cons.mp, fun a => ?_⟩
      · simp only [List.mem_cons, forall_eq_or_imp]
        exact ⟨h, fun q hq => Nat.le_trans (hh q hq) (hn lv List.mem_cons_self).1⟩
      · simp only [List.mem_cons, exists_eq_or_imp, or_comm]

theorem foldl_mergeStep_spec : ∀ (todo out : List Iv), Chain out → (∀ lv ∈ out, ∀ n ∈ todo, Nested lv n) →
    todo.Pairwise Nested → Chain (todo.foldl mergeStep out) ∧
    ∀ a, (∃ q ∈ todo.foldl mergeStep out, q.covers a = true) ↔
      (∃ q ∈ out, q.covers a = true) ∨ ∃ q ∈ todo, q.covers a = true := by
  intro todo
  induction todo with
  | nil => intro out hc _ _; simp [hc]
  | cons n t ih =>
    intro out hc hout htodo
    obtain ⟨hnt, ht⟩ := List.pairwise_cons.mp htodo
    obtain ⟨hc', hmem, hcov⟩ := mergeStep_spec hc (fun lv hlv => hout lv hlv n List.mem_cons_self)
    obtain ⟨hc'', hcov'⟩ := ih (mergeStep out n) hc'
      (fun r hr m hm => (hmem r hr).elim (fun e => e ▸ hnt m hm) (fun hr => hout r hr m (List.mem_cons_of_mem _ hm))) ht
    refine ⟨hc'', fun a => ?_⟩
    rw [List.foldl_cons, hcov', hcov]
    simp only [List.mem_cons, exists_eq_or_imp, or_assoc]

/-- **C13 (interval form).** For every list sorted by base (any order among
equal bases - the sort is unstable) of a laminar family, membership after the
merge is exactly "some loaded prefix covers the address". -/
theorem contains_iff_sorted (l : List Iv) (hlam : Laminar l) (hs : SortedLo l) (a : Nat) :
    contains l a = true ↔ ∃ q ∈ l, q.covers a = true := by
  obtain ⟨hc, hcov⟩ := foldl_mergeStep_spec l [] List.Pairwise.nil (by simp)
    (hs.imp_of_mem fun hp hq h => ⟨h, hlam _ hp _ hq⟩)
  simpa [contains, mergeRev, hcov] using containsRev_iff hc a

/-! ### Bit arithmetic: masked prefixes form a laminar family of intervals -/

theorem size_pos (p : Prefix) : 0 < p.size := Nat.two_pow_pos _

theorem masked_dvd (p : Prefix) : p.masked.size ∣ p.masked.base := Nat.dvd_mul_left _ _

theorem covers_eq_interval (p : Prefix) (hd : p.size ∣ p.base) (a : Nat) :
    p.covers a = (Iv.ofPrefix p).covers a := by
  obtain ⟨k, hk⟩ := hd
  have hs := size_pos p
  rw [Bool.eq_iff_iff]
  simp only [Prefix.covers, Iv.ofPrefix, Iv.covers, hk, Nat.mul_div_cancel_left k hs, beq_iff_eq,
    Nat.div_eq_iff hs, Nat.mul_comm k, Bool.and_eq_true, decide_eq_true_eq]
  omega

theorem add_le_of_dvd_of_lt {t b c : Nat} (hb : t ∣ b) (hc : t ∣ c) (h : b < c) : b + t ≤ c :=
  Nat.le_of_not_lt fun h' => Nat.not_le_of_lt h (Nat.le_of_lt_add_of_dvd h' hc hb)

theorem blocks_laminar (p q : Prefix) (hp : p.size ∣ p.base) (hq : q.size ∣ q.base)
    (hlt : p.base < q.base) (hin : q.base < p.base + p.size) : q.base + q.size ≤ p.base + p.size := by
  rcases Nat.le_total (128 - q.bits) (128 - p.bits) with hk | hk
  · -- q's block is no larger: its size divides p's base and end
    have hdv : q.size ∣ p.size := Nat.pow_dvd_pow 2 hk
    exact add_le_of_dvd_of_lt hq (Nat.dvd_add (Nat.dvd_trans hdv hp) hdv) hin
  · -- q's block is at least as large: its base is a multiple of p's size strictly inside p's block
    have := add_le_of_dvd_of_lt hp (Nat.dvd_trans (Nat.pow_dvd_pow 2 hk) hq) hlt
    omega

/-- A stored prefix: what `Append` produces (masked, at most 128 bits). -/
def Stored (p : Prefix) : Prop := p.size ∣ p.base ∧ p.bits ≤ 128

theorem stored_laminar (ps : List Prefix) (h : ∀ p ∈ ps, Stored p) : Laminar (ps.map Iv.ofPrefix) := by
  simp only [Laminar, List.forall_mem_map]
  exact fun p hp q hq => blocks_laminar p q (h p hp).1 (h q hq).1

/-- **C13.** Take any stored prefixes `ps` (masked, duplicates / nesting /
overlaps allowed) and any ordering `l` of their intervals that is sorted by
base address (what `sort.Sort` with `Less = base <` can produce, whatever it
does with equal bases and whatever the load order was). Then the set
contains `a` iff at least one prefix covers `a`. -/
theorem contains_correct (ps : List Prefix) (hst : ∀ p ∈ ps, Stored p)
    (l : List Iv) (hperm : ∀ x, x ∈ l ↔ x ∈ ps.map Iv.ofPrefix) (hs : SortedLo l) (a : Nat) :
    contains l a = true ↔ ∃ p ∈ ps, p.covers a = true := by
  have hlam : Laminar l := fun x hx y hy => stored_laminar ps hst x ((hperm x).mp hx) y ((hperm y).mp hy)
  simp only [contains_iff_sorted l hlam hs a, hperm, Lemmas.List.exists_mem_map]
  exact exists_congr fun p => and_congr_right fun hp => by rw [covers_eq_interval p (hst p hp).1]

theorem masked_stored (p : Prefix) (hb : p.bits ≤ 128) : Stored p.masked :=
  ⟨masked_dvd p, hb⟩

theorem masked_covers (p : Prefix) (a : Nat) : p.masked.covers a = p.covers a := by
  simp only [Prefix.covers, Prefix.masked, Prefix.size, Nat.mul_div_cancel _ (Nat.two_pow_pos _)]

/-- **IPv4 = IPv4-mapped IPv6, rule side and query side.** An IPv4 prefix
`x/n` (`n ≤ 32`, `x < 2^32`) covers the IPv4 address `y < 2^32` iff the stored
prefix (`Append`: mapped base, `n + 96` bits, masked) covers the mapped
address - which is also what a query for `::ffff:y` asks. -/
theorem v4_mapped_same (x n y : Nat) (hn : n ≤ 32) :
    (appendV4 x n).covers (v4mapped y) = (y / 2 ^ (32 - n) == x / 2 ^ (32 - n)) := by
  obtain ⟨k, hk⟩ : 2 ^ (32 - n) ∣ 0xffff * 2 ^ 32 :=
    Nat.dvd_trans (Nat.pow_dvd_pow 2 (Nat.sub_le 32 n)) (Nat.dvd_mul_left _ _)
  have hs : 0 < 2 ^ (32 - n) := Nat.two_pow_pos _
  rw [appendV4, masked_covers, Bool.eq_iff_iff]
  simp [Prefix.covers, Prefix.size, v4mapped, show 128 - (n + 96) = 32 - n by omega, hk, Nat.mul_add_div hs]

/-! ### Text loading: single addresses and the IPv4-mapped forms on the rule side

A line without `/` is stored with the full length of its address *form*
(`hostBits`: 32 for `a.b.c.d`, 128 for every 16-byte form, `::ffff:a.b.c.d`
included) and `Append` adds 96 only to the 4-byte form. -/

/-- **A single-address line covers exactly that address**, whatever form it was
written in (`a.b.c.d`, `::ffff:a.b.c.d`, plain IPv6). -/
theorem host_line_single (a : PAddr) (y : Nat) :
    (append a (hostBits a).toNat).covers y = true ↔ y = a.to6 := by
  obtain ⟨is6, x⟩ := a
  cases is6
  · show (appendV4 x 32).covers y = true ↔ y = v4mapped x
    rw [appendV4, masked_covers]; simp [Prefix.covers, Prefix.size]
  · show (appendV6 x 128).covers y = true ↔ y = x
    rw [appendV6, masked_covers]; simp [Prefix.covers, Prefix.size]

/-- `a.b.c.d/n` and `::ffff:a.b.c.d/(n+96)` are stored as the same prefix. -/
theorem cidr_forms_agree (x n : Nat) : append (false, x) n = append (true, v4mapped x) (n + 96) :=
  -- both sides are `(Prefix.mk (v4mapped x) (n + 96)).masked`; said so, the kernel does not evaluate the arithmetic
  show appendV4 x n = appendV6 (v4mapped x) (n + 96) from rfl

/-- The single address `a.b.c.d` and the single address `::ffff:a.b.c.d` are stored as the same prefix. -/
theorem host_forms_agree (x : Nat) :
    append (false, x) (hostBits (false, x)).toNat = append (true, v4mapped x) (hostBits (true, v4mapped x)).toNat :=
  cidr_forms_agree x 32   -- `hostBits` gives the two forms 32 and 128 = 32 + 96

/-- Lengths as `netip` accepts them: `≤ 32` for the 4-byte form, `≤ 128` for the 16-byte forms. -/
theorem storeLine_stored (r : PAddr × Int) (h6 : r.2.toNat ≤ 128) (h4 : r.1.1 = false → r.2.toNat ≤ 32) :
    Stored (storeLine r) := by
  obtain ⟨⟨is6, x⟩, n⟩ := r
  cases is6
  · have : n.toNat ≤ 32 := h4 rfl
    exact masked_stored _ (show n.toNat + 96 ≤ 128 by omega)
  · exact masked_stored _ h6

/-- **C13 for a loaded rule list**: the lines `rs` (as `loadLine` yields them, in any
order, duplicates / nesting / mixed forms allowed), stored by `Append`, sorted
by base in any way and merged: the set contains `a` iff some line's prefix covers `a`. -/
theorem loaded_set_correct (rs : List (PAddr × Int))
    (hb : ∀ r ∈ rs, r.2.toNat ≤ 128 ∧ (r.1.1 = false → r.2.toNat ≤ 32))
    (l : List Iv) (hperm : ∀ x, x ∈ l ↔ x ∈ (rs.map storeLine).map Iv.ofPrefix) (hs : SortedLo l) (a : Nat) :
    contains l a = true ↔ ∃ r ∈ rs, (storeLine r).covers a = true := by
  rw [contains_correct (rs.map storeLine)
    (List.forall_mem_map.mpr fun r hr => storeLine_stored r (hb r hr).1 (hb r hr).2) l hperm hs a]
  exact Lemmas.List.exists_mem_map

/-! ### Guards: the facts regenerated from `pkg/matcher/netlist/list.go` are the
ones the model was written from (operators, statement shapes, constants). -/
theorem facts_guard :
    Gen.Facts.c13SortSameBaseCmp = .lt ∧ Gen.Facts.c13SortAppendsWhenNotContained = some true ∧
    Gen.Facts.c13SortCallsSort = some true ∧ Gen.Facts.c13SortReturns = some 1 ∧
    Gen.Facts.c13LessByAddr = some true ∧ Gen.Facts.c13ContainsCmp = .le ∧
    Gen.Facts.c13ContainsShape = some true ∧ Gen.Facts.c13AppendMasksTo6 = some true ∧
    Gen.Facts.c13AppendV4BitsOffset = some 96 ∧
    -- ip_set plugins that reference other sets (Props/C13Sets.lean): `p := &IPSet{}`, the member slice is only
    -- ever written by `p.mg = append(p.mg, <one value>)` (own list, then one per referenced set), and handed out uncopied
    Gen.Facts.c13IPSetFresh = some true ∧ Gen.Facts.c13IPSetMgSelfAppends = some 2 ∧
    Gen.Facts.c13IPSetMgOtherWrites = some 0 ∧ Gen.Facts.c13IPSetOwnListFirst = some true ∧
    Gen.Facts.c13IPSetRangesSets = some true ∧ Gen.Facts.c13GetIPMatcherShape = some true ∧
    Gen.Facts.c13GroupMatchShape = some true := by decide

/-! Non-vacuity, intervals written directly: an outer one, one nested in it with the same base, one nested further
up, one adjacent. -/
def ex : List Iv := [⟨10, 20⟩, ⟨10, 12⟩, ⟨12, 14⟩, ⟨20, 30⟩]
example : contains ex 19 = true ∧ contains ex 13 = true ∧ contains ex 30 = false ∧ contains ex 9 = false := by decide
example : (appendV4 (10 * 2 ^ 24 + 5) 8).base = v4mapped (10 * 2 ^ 24) := by decide
example : (appendV4 (10 * 2 ^ 24 + 5) 8).covers (v4mapped (10 * 2 ^ 24 + 77)) = true := by decide
/-- Were a single `::ffff:a.b.c.d` line given the IPv4 length 32 (on its 16-byte form `Append` adds nothing),
it would cover `::1` and every IPv4 address: `host_line_single` excludes that. -/
example : (append (true, v4mapped 7) 32).covers 1 = true ∧ (append (true, v4mapped 7) 32).covers (v4mapped 9) = true := by decide
example : (append (true, v4mapped 7) (hostBits (true, v4mapped 7)).toNat).covers (v4mapped 9) = false := by decide

end Props.C13

import MosdnsVerif.Props.C13

/-! C13 for `ip_set` plugins that reference other sets (`sets:`).

A set built from its own list and the matchers of the referenced sets (`MatcherGroup.Match` = some member says
yes) contains an address iff some prefix loaded into it - its own or, transitively, one of a referenced set -
covers it (`hierarchy_correct`). That treats the members of a plugin as values, while they live in a Go slice that
`GetIPMatcher` hands out uncopied. It may: `NewIPSet` starts from an empty slice of its own and only ever appends
to it, therefore no later construction writes a cell an earlier plugin shows (`buildAll_reads`). The statement
shapes this depends on are the regenerated facts `c13IPSetMg*`, `c13IPSetFresh`, `c13GetIPMatcherShape` (guard in
`Props.C13.facts_guard`). -/
namespace Props.C13
open Model.C13

theorem mem_insertSorted (p x : Iv) (l : List Iv) : x ∈ insertSorted p l ↔ x = p ∨ x ∈ l := by
  fun_induction insertSorted p l with
  | case1 => simp   -- into the empty list
  | case2 q t hle => simp   -- `hle : p.lo ≤ q.lo`: `p` goes in front
  | case3 q t hgt ih => simp only [List.mem_cons, ih, or_left_comm]   -- `p` goes somewhere behind `q`

theorem sorted_insertSorted (p : Iv) (l : List Iv) (hs : SortedLo l) : SortedLo (insertSorted p l) := by
  fun_induction insertSorted p l with
  | case1 => simp [SortedLo]
  | case2 q t hle =>
    -- `hle : p.lo ≤ q.lo`: `p` in front of a list whose bases are all at least `q.lo`
    refine List.pairwise_cons.mpr ⟨?_, hs⟩
    simp only [List.mem_cons, forall_eq_or_imp]
    exact ⟨hle, fun y hy => Nat.le_trans hle ((List.pairwise_cons.mp hs).1 y hy)⟩
  | case3 q t hgt ih =>
    -- `hgt : ¬ p.lo ≤ q.lo`: `q` stays in front of `p` and of what it was in front of
    obtain ⟨hq, ht⟩ := List.pairwise_cons.mp hs
    refine List.pairwise_cons.mpr ⟨?_, ih ht⟩
    simp only [mem_insertSorted, forall_eq_or_imp]
    exact ⟨by omega, hq⟩

theorem mem_sortByLo (x : Iv) (l : List Iv) : x ∈ sortByLo l ↔ x ∈ l := by
  induction l with
  | nil => simp [sortByLo]
  | cons q t ih =>
    show x ∈ insertSorted q (sortByLo t) ↔ _
    rw [mem_insertSorted, ih, List.mem_cons]

theorem sorted_sortByLo (l : List Iv) : SortedLo (sortByLo l) :=
  List.foldrRecOn l insertSorted List.Pairwise.nil fun t ht q _ => sorted_insertSorted q t ht

/-! ### Values: a set of sets contains what some loaded prefix covers -/

def Decides (m : Nat → Bool) (ps : List Prefix) : Prop := ∀ a, m a = true ↔ ∃ p ∈ ps, p.covers a = true

theorem ownMatch_correct (own : List Prefix) (hst : ∀ p ∈ own, Stored p) : Decides (ownMatch own) own :=
  contains_correct own hst _ (fun x => mem_sortByLo x _) (sorted_sortByLo _)

theorem Decides.snoc {mg : List (Nat → Bool)} {acc ps : List Prefix} {m : Nat → Bool}
    (hmg : Decides (groupMatch mg) acc) (hm : Decides m ps) : Decides (groupMatch (mg ++ [m])) (acc ++ ps) := by
  intro a
  have := hmg a
  simp only [groupMatch] at this
  simp [groupMatch, this, hm a, or_and_right, exists_or]

/-- What was built so far agrees with what was loaded so far: same number of plugins, and every built
plugin answers `true` exactly for the addresses some prefix loaded into it covers. -/
def Agree (built : List (Nat → Bool)) (loaded : List (List Prefix)) : Prop :=
  built.length = loaded.length ∧
  ∀ (j : Nat) (m : Nat → Bool) (ps : List Prefix), built[j]? = some m → loaded[j]? = some ps → ∀ a, (m a = true ↔ ∃ p ∈ ps, p.covers a = true)

theorem addSets_correct {built : List (Nat → Bool)} {loaded : List (List Prefix)} (hag : Agree built loaded)
    (refs : List Nat) (mg : List (Nat → Bool)) (acc : List Prefix) (out : List (Nat → Bool))
    (hmg : Decides (groupMatch mg) acc) (hout : addSets built mg refs = some out) :
    Decides (groupMatch out) (acc ++ refs.flatMap (fun j => loaded[j]?.getD [])) := by
  fun_induction addSets built mg refs generalizing acc with
  | case1 mg =>   -- no reference left: `out = mg`
    cases hout
    simpa using hmg
  | case2 mg j js hb => cases hout   -- `hb : built[j]? = none`, an unknown tag: `addSets` fails
  | case3 mg j js m hb ih =>
    -- `hb : built[j]? = some m`: `m` joins the group, what was loaded into plugin `j` joins `acc`
    have hj : j < loaded.length := hag.1 ▸ (List.getElem?_eq_some_iff.mp hb).1
    have hl : loaded[j]? = some loaded[j] := List.getElem?_eq_getElem hj
    simpa [hl] using ih _ (hmg.snoc (hag.2 j m _ hb hl)) hout

/-- `NewIPSet` for one plugin: built on plugins that agree with what was loaded into them, it agrees with
its own rules plus everything loaded into the sets it references. -/
theorem newIPSet_correct (built : List (Nat → Bool)) (loaded : List (List Prefix)) (hag : Agree built loaded)
    (d : SetDef) (hst : ∀ p ∈ d.own, Stored p) (m : Nat → Bool) (hm : newIPSet built d = some m) (a : Nat) :
    m a = true ↔ ∃ p ∈ loadedInto loaded d, p.covers a = true := by
  obtain ⟨out, hout, rfl⟩ := Option.map_eq_some_iff.mp hm
  refine addSets_correct hag d.refs _ d.own out ?_ hout a
  split
  · next he => simp [List.isEmpty_iff.mp he, Decides, groupMatch]
  · simpa [Decides, groupMatch] using ownMatch_correct d.own hst

theorem agree_snoc {built : List (Nat → Bool)} {loaded : List (List Prefix)} (hag : Agree built loaded)
    {m : Nat → Bool} {ps : List Prefix} (hm : Decides m ps) : Agree (built ++ [m]) (loaded ++ [ps]) := by
  refine ⟨by simp [hag.1], fun j m' ps' hb hl => ?_⟩
  have hj : j < built.length + 1 := by simpa using (List.getElem?_eq_some_iff.mp hb).1
  rcases Nat.lt_succ_iff_lt_or_eq.mp hj with hj | rfl
  · rw [List.getElem?_append_left hj] at hb
    rw [List.getElem?_append_left (hag.1 ▸ hj)] at hl
    exact hag.2 j m' ps' hb hl
  · rw [List.getElem?_concat_length] at hb
    rw [hag.1, List.getElem?_concat_length] at hl
    cases hb; cases hl; exact hm

/-- **C13 for a configuration of `ip_set` plugins** built in order, every plugin from its own rules
(stored prefixes; any number, duplicates / nesting allowed) and references to plugins built before it,
shared or nested in any way: each plugin contains an address iff some prefix loaded into it - its own
or one loaded into a set it references - covers the address. -/
theorem hierarchy_correct (ds : List SetDef) :
    ∀ (built : List (Nat → Bool)) (loaded : List (List Prefix)), Agree built loaded →
    (∀ d ∈ ds, ∀ p ∈ d.own, Stored p) →
    ∀ out, buildSets built ds = some out → Agree out (loadedAll loaded ds) := by
  intro built loaded hag hst out hout
  fun_induction buildSets built ds generalizing loaded with
  | case1 built =>   -- nothing left to build: `out = built`
    cases hout
    exact hag
  | case2 built d ds hm => cases hout   -- `hm : newIPSet built d = none`: the configuration is refused
  | case3 built d ds m hm ih =>
    -- `hm : newIPSet built d = some m`: `m` agrees with what was loaded into `d`, and joins `built`
    obtain ⟨hd, hds⟩ := List.forall_mem_cons.mp hst
    exact ih _ (agree_snoc hag (newIPSet_correct built loaded hag d hd m hm)) hds hout

theorem agree_nil : Agree [] [] := ⟨rfl, by intro j m ps hb; simp at hb⟩

/-! ### Slices: a later `NewIPSet` does not write what an earlier plugin shows -/

/-- `s` lives in an array allocated before mark `n` (or shows nothing). -/
def Before (n : Nat) (s : Slice) : Prop := s.len = 0 ∨ s.arr < n

/-- `s` is the private slice of a construction that started at mark `n`: still nil, or a view of an array
allocated since then. -/
def Own {α : Type} (n : Nat) (h : Heap α) (s : Slice) : Prop :=
  s.len ≤ s.cap ∧ (s.cap = 0 ∨ (n ≤ s.arr ∧ s.arr < h.next))

theorem read_len_zero {α : Type} (h : Heap α) (s : Slice) (hz : s.len = 0) : h.read s = [] := by
  simp [Heap.read, hz]

theorem read_congr {α : Type} {h h' : Heap α} {s : Slice} (hc : ∀ i < s.len, h'.cell s.arr i = h.cell s.arr i) :
    h'.read s = h.read s :=
  List.map_congr_left fun i hi => hc i (List.mem_range.mp hi)

theorem read_before {α : Type} {h h' : Heap α} {n : Nat} (hc : ∀ a < n, ∀ i, h'.cell a i = h.cell a i)
    {s : Slice} (hs : Before n s) : h'.read s = h.read s := by
  rcases hs with hz | hlt
  · rw [read_len_zero _ _ hz, read_len_zero _ _ hz]
  · exact read_congr fun i _ => hc _ hlt i

theorem read_snoc {α : Type} {h h' : Heap α} {s : Slice} {a c : Nat} {x : α}
    (hc : ∀ i < s.len, h'.cell a i = h.cell s.arr i) (hx : h'.cell a s.len = some x) :
    h'.read ⟨a, s.len + 1, c⟩ = h.read s ++ [some x] := by
  simp only [Heap.read, List.range_succ, List.map_append, List.map_singleton, hx]
  exact congrArg (· ++ _) (List.map_congr_left fun i hi => hc i (List.mem_range.mp hi))

/-- One `p.mg = append(p.mg, x)` on a private slice: the slice stays private, shows one more member, and
no slice of an older array sees a difference. -/
theorem append_spec {α : Type} (grow : Nat → Nat) (h : Heap α) (p : Slice) (x : α) (n : Nat)
    (hn : n ≤ h.next) (ho : Own n h p) :
    Own n (h.append grow p x).1 (h.append grow p x).2 ∧ h.next ≤ (h.append grow p x).1.next ∧
    (h.append grow p x).1.read (h.append grow p x).2 = h.read p ++ [some x] ∧
    ∀ s, Before n s → (h.append grow p x).1.read s = h.read s := by
  unfold Heap.append
  by_cases hc : p.len < p.cap
  · -- room left: the write goes into `p`'s own array, which is not older than `n`
    simp only [hc, if_true]
    have harr : n ≤ p.arr ∧ p.arr < h.next := ho.2.resolve_left (by omega)
    refine ⟨⟨Nat.succ_le_of_lt hc, .inr harr⟩, Nat.le_refl _,
      read_snoc (fun i hi => by simp [Nat.ne_of_lt hi]) (by simp), fun s => read_before fun a ha i => ?_⟩
    simp [show a ≠ p.arr by omega]
  · -- no room: the members are copied to the new array `h.next`
    simp only [hc, if_false]
    refine ⟨⟨by show p.len + 1 ≤ p.len + 1 + grow p.len; omega, .inr ⟨hn, Nat.lt_succ_self _⟩⟩, Nat.le_succ _,
      read_snoc (fun i hi => by simp [hi]) (by simp), fun s => read_before fun a ha i => ?_⟩
    simp [show a ≠ h.next by omega]

theorem appendAll_spec {α : Type} (grow : Nat → Nat) (n : Nat) (xs : List α) (h : Heap α) (p : Slice)
    (hn : n ≤ h.next) (ho : Own n h p) :
    Own n (h.appendAll grow p xs).1 (h.appendAll grow p xs).2 ∧ h.next ≤ (h.appendAll grow p xs).1.next ∧
    (h.appendAll grow p xs).1.read (h.appendAll grow p xs).2 = h.read p ++ xs.map some ∧
    ∀ s, Before n s → (h.appendAll grow p xs).1.read s = h.read s := by
  fun_induction Heap.appendAll grow h p xs with
  | case1 h p => exact ⟨ho, Nat.le_refl _, by simp, fun _ _ => rfl⟩   -- nothing to append
  | case2 h p x xs r ih =>
    -- `r` = heap and slice after appending `x`; `ih` is about appending `xs` to them
    obtain ⟨ho1, hn1, hr1, hf1⟩ := append_spec grow h p x n hn ho
    obtain ⟨ho2, hn2, hr2, hf2⟩ := ih (Nat.le_trans hn hn1) ho1
    exact ⟨ho2, Nat.le_trans hn1 hn2, by rw [hr2, hr1]; simp, fun s hs => by rw [hf2 s hs, hf1 s hs]⟩

/-- **One `NewIPSet`** (a fresh nil slice, then self-appends of `xs`): the new plugin shows exactly `xs`,
every slice of an array that existed before shows what it showed, and the new slice is itself such an
"old" slice for whatever is built next. -/
theorem newSet_spec {α : Type} (grow : Nat → Nat) (h : Heap α) (xs : List α) :
    (h.appendAll grow nilSlice xs).1.read (h.appendAll grow nilSlice xs).2 = xs.map some ∧
    (∀ s, Before h.next s → (h.appendAll grow nilSlice xs).1.read s = h.read s) ∧
    h.next ≤ (h.appendAll grow nilSlice xs).1.next ∧
    Before (h.appendAll grow nilSlice xs).1.next (h.appendAll grow nilSlice xs).2 := by
  have hown : Own h.next h nilSlice := ⟨Nat.le_refl _, Or.inl rfl⟩
  obtain ⟨ho, hn, hr, hf⟩ := appendAll_spec grow h.next xs h nilSlice (Nat.le_refl _) hown
  refine ⟨by rw [hr]; simp [Heap.read, nilSlice], hf, hn, ?_⟩
  rcases ho.2 with h0 | h1
  · exact Or.inl (by have := ho.1; omega)
  · exact Or.inr h1.2

theorem before_mono {n n' : Nat} (hle : n ≤ n') {s : Slice} (hs : Before n s) : Before n' s :=
  hs.imp_right fun h => Nat.lt_of_lt_of_le h hle

/-- **A whole configuration.** Plugins are built one after the other; the members of each may mention the
slices of the plugins built before it (that is what a reference stores). When all are built, every plugin
still shows exactly the members it was built with: `news[i]` shows `ds[i]` applied to the slices that
existed when it was built - whatever was built afterwards, in whatever order, sharing whichever sets. -/
theorem buildAll_reads {α : Type} (grow : Nat → Nat) (ds : List (List Slice → List α)) :
    ∀ (h : Heap α) (built : List Slice), (∀ s ∈ built, Before h.next s) →
    ∃ news, (h.buildAll grow built ds).2 = built ++ news ∧ news.length = ds.length ∧
      (∀ s ∈ built, (h.buildAll grow built ds).1.read s = h.read s) ∧
      (∀ s ∈ (h.buildAll grow built ds).2, Before (h.buildAll grow built ds).1.next s) ∧
      ∀ (i : Nat) (d : List Slice → List α) (s : Slice), ds[i]? = some d → news[i]? = some s →
        (h.buildAll grow built ds).1.read s = (d (built ++ news.take i)).map some := by
  intro h built hinv
  fun_induction Heap.buildAll grow h built ds with
  | case1 h built => exact ⟨[], by simp, rfl, fun _ _ => rfl, hinv, by intro i d s hd; simp at hd⟩   -- no plugin left
  | case2 h built d ds r ih =>
    -- `r` = heap and slice after the `NewIPSet` of `d`; `ih` is about building `ds` on them
    obtain ⟨hr0, hf0, hn0, hb0⟩ := newSet_spec grow h (d built)
    -- the new slice `r.2` joins the old ones: what is built next leaves it alone as well
    obtain ⟨news, he, hl, hfr, hbe, hrd⟩ := ih (by
      simp only [List.mem_append, List.mem_singleton]
      rintro s (hs | rfl)
      · exact before_mono hn0 (hinv s hs)
      · exact hb0)
    refine ⟨r.2 :: news, by simp [he], by simp [hl], fun s hs => ?_, hbe, fun i d' s hd hs => ?_⟩
    · rw [hfr s (List.mem_append_left _ hs), hf0 s (hinv s hs)]
    · cases i with
      | zero =>
        cases hd; cases hs
        rw [hfr _ (by simp), hr0]; simp
      | succ i => simpa using hrd i d' s hd hs

/-! Non-vacuity: the shape of the usual configuration. `local = lan + cn + custom`, then
`direct = local + x` and `nolog = local + y`, on a runtime that gives a 3-member slice capacity 4. A
construction that *adopts* the referenced plugin's slice instead of starting from its own nil slice
(outside the discipline `buildAll_reads` is about) makes the second derived set overwrite the first one's
fourth member; the disciplined one does not. -/
def exGrow (len : Nat) : Nat := if len = 2 then 1 else 0
def exHeap : Heap Nat := ⟨fun _ _ => none, 0⟩
def exLocal := exHeap.appendAll exGrow nilSlice [1, 2, 3]
example : exLocal.2 = ⟨2, 3, 4⟩ := by decide
def exDirectBad := exLocal.1.append exGrow exLocal.2 10
def exNologBad := exDirectBad.1.append exGrow exLocal.2 20
example : exDirectBad.1.read exDirectBad.2 = [some 1, some 2, some 3, some 10] := by decide
example : exNologBad.1.read exDirectBad.2 = [some 1, some 2, some 3, some 20] := by decide
def exGood := exHeap.buildAll exGrow [] [fun _ => [1, 2, 3], fun _ => [7, 10], fun _ => [7, 20]]
example : exGood.2.map exGood.1.read = [[some 1, some 2, some 3], [some 7, some 10], [some 7, some 20]] := by decide

end Props.C13

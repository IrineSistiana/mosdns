import MosdnsVerif.Model.C14
import MosdnsVerif.Gen.Facts
import MosdnsVerif.Refine.C14

/-!
# C14 — forward returns the first good answer among the queried upstreams
-/
namespace Props.C14
open Model.C14

/-- **the concurrency is clamped to 1..max** -/
theorem clamp_range (maxC : Nat) (h : 1 ≤ maxC) (c : Int) : 1 ≤ clamp maxC c ∧ clamp maxC c ≤ maxC := by
  unfold clamp
  split
  · omega
  · split <;> omega

theorem clamp_id (maxC : Nat) (c : Nat) (h1 : 1 ≤ c) (h2 : c ≤ maxC) : clamp maxC c = c := by
  unfold clamp
  have h0 : ¬ ((c : Int) ≤ 0) := by omega
  have h : ¬ ((c : Int) > maxC) := by omega
  rw [if_neg h0, if_neg h]
  simp

/-- **`c` cyclically consecutive positions of the list, starting at `r`**, wrapping around a shorter list -/
theorem pick_spec (n r c : Nat) (hn : 0 < n) :
    (pick n r c).length = c ∧ (∀ x ∈ pick n r c, x < n) ∧
    (∀ i, (h : i < c) → (pick n r c)[i]'(by simp [pick]; exact h) = (r + i) % n) := by
  refine ⟨by simp [pick], ?_, ?_⟩
  · intro x hx
    simp only [pick, List.mem_map, List.mem_range] at hx
    obtain ⟨i, _, rfl⟩ := hx
    exact Nat.mod_lt _ hn
  · intro i h
    simp [pick]

theorem pick_consecutive (n r c : Nat) (hn : 0 < n) (i : Nat) (h : i + 1 < c) :
    (pick n r c)[i + 1]'(by simp [pick]; exact h) = ((pick n r c)[i]'(by simp [pick]; omega) + 1) % n := by
  simp only [pick, List.getElem_map, List.getElem_range]
  rw [Nat.add_mod ((r + i) % n) 1 n, Nat.mod_mod, ← Nat.add_mod]
  congr 1

/-- What arrives before the decision: each of the first `k` events is a failed exchange or a reply that is not good, so
besides a good reply this also excludes `.ctxDone` among them. -/
def noGoodBefore (evs : List Ev) (k : Nat) : Prop :=
  ∀ j, j < k → ∀ e, evs[j]? = some e → (e = .res .fail ∨ ∃ rc f, e = .res (.reply rc f) ∧ good rc = false)

theorem collect_done (c i : Nat) (evs : List Ev) (h : ¬ i < c) : collect c i evs = .errAllFailed := by
  cases evs <;> simp [collect, h]

/-- From iteration `i` the loop passes over `k` results none of which is good and stands at event `k` in iteration `k + i`. -/
theorem collect_at (c i : Nat) {k : Nat} {evs : List Ev} {e : Ev} (hk : k + i < c) (hev : evs[k]? = some e)
    (hbefore : noGoodBefore evs k) : collect c i evs = collect c (k + i) (e :: evs.drop (k + 1)) := by
  induction k generalizing i evs with
  | zero =>
    cases evs with
    | nil => cases hev
    | cons e0 tl => cases hev; rw [Nat.zero_add]; rfl
  | succ k ih =>
    cases evs with
    | nil => cases hev
    | cons e0 tl =>
      -- `e0` is passed over (`hbefore 0`), the rest is `ih` one iteration later; `hev` and `hbefore (j + 1)` are about
      -- `(e0 :: tl)[· + 1]?`, which unfolds to the `tl[·]?` that `ih` asks for
      have hlt : i < c := by omega
      have hlt1 : i < c - 1 := by omega
      rw [Nat.add_assoc, Nat.add_comm 1 i, List.drop_succ_cons,
        ← ih (i + 1) (by omega) hev fun j hj => hbefore (j + 1) (Nat.succ_lt_succ hj)]
      rcases hbefore 0 (Nat.zero_lt_succ k) e0 rfl with rfl | ⟨rc, f, rfl, hg⟩
      · simp [collect, hlt]
      · simp [collect, hlt, hlt1, hg]

/-- **The first NOERROR / NXDOMAIN reply to arrive is returned**: whatever
arrived before it (failures, garbage, SERVFAIL, REFUSED ...) and whatever the
other upstreams do afterwards, as long as the caller's context has not ended
before it arrives. -/
theorem first_good_wins (c : Nat) (evs : List Ev) (k : Nat) (rc f : Nat)
    (hk : k < c) (hev : evs[k]? = some (.res (.reply rc f))) (hg : good rc = true)
    (hbefore : noGoodBefore evs k) :
    collect c 0 evs = .reply rc f := by
  simp [collect_at c 0 hk hev hbefore, collect, hk, hg]

/-- **C14 over the regenerated code**: with the body of `case res := <-resChan` regenerated from the
source, the first NOERROR / NXDOMAIN reply to arrive while the context is alive is what the call returns. -/
theorem first_good_wins_gen (c : Nat) (evs : List Ev) (k : Nat) (rc f : Nat)
    (hk : k < c) (hev : evs[k]? = some (.res (.reply rc f))) (hg : good rc = true)
    (hbefore : noGoodBefore evs k) :
    Refine.C14.collectGen c 0 evs = .reply rc f := by
  rw [Refine.C14.collectGen_eq]
  exact first_good_wins c evs k rc f hk hev hg hbefore

/-- **If no good reply arrives, the outcome is that of the last exchange to
finish**: its reply whatever the rcode, or the error. -/
theorem last_decides (c : Nat) (hc : 0 < c) (evs : List Ev) (hlen : evs.length = c)
    (hall : noGoodBefore evs (c - 1)) (last : Ev) (hlast : evs[c - 1]? = some last) :
    collect c 0 evs = (match last with
      | .res (.reply rc f) => .reply rc f
      | .res .fail => .errAllFailed
      | .ctxDone => .errCtx) := by
  have h1 : c - 1 < c := by omega      -- at the last position the loop is still running
  rw [collect_at c 0 h1 hlast hall]
  rcases last with (_ | _) | _
  · simp [collect, h1]      -- a reply is returned whatever its rcode
  · simp [collect, h1, collect_done c (c - 1 + 1) _ (by omega)]    -- after a failure the loop stands at position `c` and ends
  · simp [collect, h1]      -- `ctxDone` ends the call

/-- **The call never outlives its context**: if the context ends before a
decision, the context's error is returned at that event. -/
theorem ctx_ends_call (c : Nat) (evs : List Ev) (k : Nat) (hk : k < c) (hev : evs[k]? = some .ctxDone)
    (hbefore : noGoodBefore evs k) : collect c 0 evs = .errCtx := by
  simp [collect_at c 0 hk hev hbefore, collect, hk]

/-- **Over the regenerated code** too the end of the caller's context ends the call at that event. -/
theorem ctx_ends_call_gen (c : Nat) (evs : List Ev) (k : Nat) (hk : k < c) (hev : evs[k]? = some .ctxDone)
    (hbefore : noGoodBefore evs k) : Refine.C14.collectGen c 0 evs = .errCtx := by
  rw [Refine.C14.collectGen_eq]
  exact ctx_ends_call c evs k hk hev hbefore

/-- the loop looks at no more than `c` results -/
theorem collect_ignores_rest (c : Nat) : ∀ (evs extra : List Ev) (i : Nat), c ≤ i + evs.length →
    collect c i (evs ++ extra) = collect c i evs := by
  intro evs
  induction evs with
  | nil =>
    intro extra i h
    have hi : ¬ i < c := by simpa using h
    rw [collect_done c i _ hi, collect_done c i _ hi]
  | cons ev rest ih =>
    intro extra i h
    have hr := ih extra (i + 1) (by rw [List.length_cons] at h; omega)
    -- a reply that is returned and `ctxDone` do not look at the rest; a failure or a skipped reply goes on with `hr`
    rcases ev with (_ | _) | _ <;> simp [collect, hr]

/-! The regenerated facts are the ones the model was written from: the build fails when the source departs from them. -/

theorem facts_guard :
    Gen.Facts.c14MaxConcurrent = some 3 ∧ Gen.Facts.c14QueryTimeoutMs = some 5000 ∧ Gen.Facts.c14ClampShape = some true ∧
    Gen.Facts.c14PickShape = some true ∧ Gen.Facts.c14PrivateCopyPerUpstream = some true ∧
    Gen.Facts.c14HelperShape = some true ∧ Gen.Facts.c14CollectShape = some true ∧ Gen.Facts.c14TagSubsets = some true ∧
    Gen.Facts.c14UpstreamPerEntry = some true ∧ Gen.Facts.c14EntryOptions = some true ∧
    Gen.Facts.c14WrapperTransparent = some true ∧ Gen.Facts.c14ExecInstallsReply = some true := by decide

/-- the instance the code runs: `maxConcurrentQueries` read from the source -/
theorem forward_clamp (c : Int) : 1 ≤ clamp (Gen.Facts.c14MaxConcurrent.getD 0) c ∧ clamp (Gen.Facts.c14MaxConcurrent.getD 0) c ≤ 3 := by
  have : Gen.Facts.c14MaxConcurrent.getD 0 = 3 := by decide
  rw [this]
  exact clamp_range 3 (by omega) c

/-! ## which servers a query reaches (construction of `U`, tag subsets, cyclic selection) -/

/-- what the regenerated facts (T2) say about `NewForward`: one upstream per configured entry, at its
own position, created from that entry's own options -/
def perEntryFact : Bool :=
  Gen.Facts.c14UpstreamPerEntry.getD false && Gen.Facts.c14EntryOptions.getD false

/-- **`U` is the configuration**: position `i` of the list that `NewForward` builds reaches the server that
the options of entry `i` designate - whatever the other entries are (same `addr`, same anything). `by decide`
fails when an entry's upstream no longer comes from its own `NewUpstream(c.Addr, uOpt)` call. -/
theorem forward_build (targets : List Nat) : build perEntryFact targets = some targets := by
  have : perEntryFact = true := by decide
  rw [this]; rfl

/-- exactly `clamp` queries leave, one per helper -/
theorem contacted_length (maxC : Nat) (s : List Nat) (conc : Int) (r : Nat) :
    (contacted maxC s conc r).length = clamp maxC conc := by
  simp [contacted, pick]

/-- **the `i`-th helper's query goes to the server at position `(r + i) mod len` of the list in use** -/
theorem contacted_get (maxC : Nat) (s : List Nat) (conc : Int) (r i : Nat) (hi : i < clamp maxC conc) :
    (contacted maxC s conc r)[i]? = some (s.getD ((r + i) % s.length) 0) := by
  simp [contacted, pick, hi]

/-- **only servers of the list in use are contacted** (a tag subset never reaches an upstream it does not name) -/
theorem contacted_mem (maxC : Nat) (s : List Nat) (hs : s ≠ []) (conc : Int) (r : Nat) :
    ∀ x ∈ contacted maxC s conc r, x ∈ s := by
  intro x hx
  obtain ⟨p, hp, rfl⟩ := List.mem_map.mp hx
  have hlt := (pick_spec s.length r _ (List.length_pos_iff.mpr hs)).2.1 p hp
  rw [List.getD_eq_getElem?_getD, List.getElem?_eq_getElem hlt]
  exact List.getElem_mem hlt

/-- position `k` of a tag subset is the upstream of the `k`-th named entry -/
theorem inUse_subset_get (u idx : List Nat) (k : Nat) (hk : k < idx.length) :
    (inUse u (some idx))[k]? = some (u.getD idx[k] 0) := by
  simp [inUse, hk]

/-- **routing over the regenerated construction**: with `U` built as the regenerated facts say, the `i`-th of
the `c` helpers sends the query to the server designated by the own options of the entry at cyclic position
`r + i` of the list in use (all entries, or the tag subset `sub` in the order of its tags). -/
theorem route_own_servers (targets : List Nat) (sub : Option (List Nat)) (conc : Int) (r i : Nat)
    (hi : i < clamp (Gen.Facts.c14MaxConcurrent.getD 0) conc) :
    ∃ u, build perEntryFact targets = some u ∧
      (contacted (Gen.Facts.c14MaxConcurrent.getD 0) (inUse u sub) conc r)[i]? =
        some ((inUse targets sub).getD ((r + i) % (inUse targets sub).length) 0) :=
  ⟨targets, forward_build targets, contacted_get _ _ conc r i hi⟩

/-! ## every exchange of a helper is an exchange with the upstream of its position (the wrapper), whatever happened before -/

theorem run_held (w : Wrap) (hw : w.releaseOnFail = true) (hist : List Bool) (held : Nat) : (w.run held hist).1 = held := by
  induction hist with
  | nil => rfl
  | cons ok rest ih => simpa [Wrap.run, hw] using ih

theorem run_admits (w : Wrap) (hist : List Bool) (held : Nat) (h : ∀ n, w.cap = some n → w.releaseOnFail = true ∧ held < n) :
    (w.run held hist).2 = hist.map (fun _ => true) := by
  induction hist generalizing held with
  | nil => rfl
  | cons ok rest ih =>
    obtain ⟨cap, rel⟩ := w
    cases cap with
    | none => simpa [Wrap.run] using ih _ (by simp)
    | some n =>
      obtain ⟨rfl, hn⟩ := h n rfl
      simpa [Wrap.run, hn] using ih held h

theorem transparent_admits_all (b : Bool) : ∀ (hist : List Bool) (held : Nat),
    ((Wrap.mk none b).run held hist).2 = hist.map (fun _ => true) :=
  fun hist held => run_admits _ hist held (by simp)

/-- a gate that always gives its slot back never holds one between exchanges ... -/
theorem balanced_holds_nothing (n : Nat) : ∀ (hist : List Bool), ((Wrap.mk (some n) true).run 0 hist).1 = 0 :=
  fun hist => run_held _ rfl hist 0

/-- ... hence sequential exchanges through it are all handed over too (a cap on the exchanges in flight is harmless for C14) -/
theorem balanced_admits_all (n : Nat) (hn : 0 < n) : ∀ (hist : List Bool),
    ((Wrap.mk (some n) true).run 0 hist).2 = hist.map (fun _ => true) :=
  fun hist => run_admits _ hist 0 (by simpa using hn)

/-- **over the regenerated source**: the wrapper is the gate-less one, so after any history of
successes and failures (fault sequences of any length, on one Forward instance) the next exchange of a helper
reaches the upstream of its position - `contacted` / `route_own_servers` describe every query of a session, not only
the first one. `by decide` fails when `upstreamWrapper.ExchangeContext` is anything else than one unconditional call. -/
theorem forward_wrapper_admits (hist : List Bool) :
    ∃ w, wrapOf (Gen.Facts.c14WrapperTransparent.getD false) = some w ∧ (w.run 0 hist).2 = hist.map (fun _ => true) := by
  have h : Gen.Facts.c14WrapperTransparent.getD false = true := by decide
  rw [h]
  exact ⟨⟨none, true⟩, rfl, transparent_admits_all true hist 0⟩

/-- a gate that keeps the slot of a failed exchange is refuted: after `cap` failures nothing is sent any more -/
theorem leaky_gate_is_refuted :
    ((Wrap.mk (some 2) false).run 0 [false, true, false, true, true]).2 = [true, true, true, false, false] := by decide

/-! ## the reply the call leaves in the query context -/

/-- an `Exec` that stores unconditionally leaves the reply chosen by `exchange` in the context, whatever the
context held before (nothing, the reply of an earlier forward, a cache / hosts answer ...) and whatever the rcode -/
theorem exec_installs_choice (prev : Slot) (rc f : Nat) :
    execWith (fun _ _ => false) prev (.reply rc f) = (some (rc, f), true) := rfl

/-- ... and when `exchange` ends with an error the context is left as it was -/
theorem exec_error_keeps_context (keep : Slot → Nat → Bool) (prev : Slot) (o : Out) (h : ∀ rc f, o ≠ .reply rc f) :
    execWith keep prev o = (prev, false) := by
  cases o with
  | reply rc f => exact absurd rfl (h rc f)
  | errAllFailed => rfl
  | errCtx => rfl
  | pending => rfl

/-- **over the regenerated source**: `Forward.Exec` and the quick-configured executable store the
outcome of the (regenerated) collection loop unconditionally, so for every response the context already holds,
every concurrency and every arrival order, a call that returns nil leaves exactly the chosen reply in the context -
"its reply whatever the rcode". `by decide` fails when either entry point is anything else than
exchange / return the error / SetResponse / return nil. -/
theorem forward_exec_installs (prev : Slot) (c : Nat) (evs : List Ev) (rc f : Nat)
    (h : Refine.C14.collectGen c 0 evs = .reply rc f) :
    ∃ k, keepOf (Gen.Facts.c14ExecInstallsReply.getD false) = some k ∧
      execWith k prev (Refine.C14.collectGen c 0 evs) = (some (rc, f), true) := by
  have hf : Gen.Facts.c14ExecInstallsReply.getD false = true := by decide
  rw [hf, h]
  exact ⟨_, rfl, rfl⟩

/-- an `Exec` that keeps an earlier response when its own outcome is a failure rcode is refuted: the context holds
a NOERROR answer from an earlier step (origin 200), both queried upstreams answer SERVFAIL / REFUSED; the call
returns nil and the context still holds the foreign answer, not the reply of the last exchange to finish -/
theorem keeping_an_earlier_response_is_refuted :
    execWith (fun prev rc => prev.isSome && !good rc) (some (0, 200)) (collect 2 0 [.res (.reply 2 0), .res (.reply 5 1)]) =
        (some (0, 200), true) ∧
      execWith (fun _ _ => false) (some (0, 200)) (collect 2 0 [.res (.reply 2 0), .res (.reply 5 1)]) = (some (5, 1), true) := by
  decide

example : Refine.C14.collectGen 3 0 [.res (.reply 2 1), .res (.reply 3 2), .res (.reply 0 0)] = .reply 3 2 := by decide
example : Refine.C14.collectGen 3 0 [.res .fail, .res (.reply 2 1), .res (.reply 5 2)] = .reply 5 2 := by decide

-- two entries that differ in `dial_addr` only (servers 7 and 9), concurrent = 2, start 1: both servers, second first
example : (build perEntryFact [7, 9]).map (fun u => contacted 3 (inUse u none) 2 1) = some [9, 7] := by decide
-- tag subset naming entry 1 only, concurrent = 3: server 9 three times, server 7 never
example : (build perEntryFact [7, 9]).map (fun u => contacted 3 (inUse u (some [1])) 7 0) = some [9, 9, 9] := by decide
-- what sharing the first entry's upstream would give for the same configuration is a different list
example : contacted 3 (inUse [7, 7] none) 2 1 ≠ contacted 3 (inUse [7, 9] none) 2 1 := by decide

example : exchange 3 4 7 2 [.res .fail, .res (.reply 2 3), .res (.reply 0 0)] = ([2, 3, 0], .reply 0 0) := by decide
example : exchange 3 2 3 1 [.res (.reply 2 1), .res .fail, .res (.reply 5 1)] = ([1, 0, 1], .reply 5 1) := by decide
example : exchange 3 2 0 1 [.res (.reply 2 1)] = ([1], .reply 2 1) := by decide
example : collect 3 0 [.res (.reply 2 1), .res (.reply 3 2), .res (.reply 0 0)] = .reply 3 2 := by decide
example : collect 2 0 [.res (.reply 2 1), .ctxDone] = .errCtx := by decide

end Props.C14

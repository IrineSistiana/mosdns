import MosdnsVerif.Model.Handler
import MosdnsVerif.Model.C15
import MosdnsVerif.Gen.Facts

/-!
# C15 — EDNS0 is terminated, not leaked, between client and upstream

A record list has no OPT or splits at its last one, and what the chain does to the client's OPT and to the
upstream's is read through that view.
-/
namespace Props.C15
open Model.Handler

def countOpt (l : List RR) : Nat := (l.filter RR.isOpt).length

/-- the model's count, on messages, is this one -/
theorem countOpt_msg (m : Msg) : m.countOpt = countOpt m.extra := rfl

theorem countOpt_opt_cons (o : Opt) (l : List RR) : countOpt (.opt o :: l) = countOpt l + 1 := rfl

theorem countOpt_eq_zero {l : List RR} : countOpt l = 0 ↔ ∀ o, RR.opt o ∉ l := by
  rw [countOpt, List.length_eq_zero_iff, List.filter_eq_nil_iff]
  constructor
  · intro h o ho; exact absurd rfl (h _ ho)
  · intro h r hr; cases r with
    | opt o => exact absurd hr (h o)
    | rr => simp

theorem countOpt_append (a b : List RR) : countOpt (a ++ b) = countOpt a + countOpt b := by
  simp [countOpt]

theorem lastOpt_cases (l : List RR) :
    countOpt l = 0 ∨ ∃ a o b, l = a ++ RR.opt o :: b ∧ countOpt b = 0 := by
  induction l with
  | nil => exact .inl rfl
  | cons r rs ih =>
    rcases ih with h | ⟨a, o, b, rfl, hb⟩
    · cases r with
      | opt o => exact .inr ⟨[], o, rs, rfl, h⟩
      | rr => exact .inl h    -- `countOpt (.rr .. :: rs)` computes to `countOpt rs`
    · exact .inr ⟨r :: a, o, b, rfl, hb⟩

theorem popOpt_of_noOpt {l : List RR} (h : countOpt l = 0) : popOpt l = (l, none) := by
  induction l with
  | nil => rfl
  | cons r rs ih =>
    -- `countOpt (r :: rs)` computes: to a successor for an OPT, to `countOpt rs` for any other record
    cases r with
    | opt o => exact absurd h (Nat.succ_ne_zero _)
    | rr => rw [popOpt, ih h]

theorem popOpt_lastOpt (a : List RR) (o : Opt) {b : List RR} (h : countOpt b = 0) :
    popOpt (a ++ RR.opt o :: b) = (a ++ b, some o) := by
  induction a with
  | nil => simp [popOpt, popOpt_of_noOpt h]
  | cons r a ih => simp [popOpt, ih]

theorem swapOptAux_of_noOpt {l : List RR} (h : countOpt l = 0) : swapOptAux l = none := by
  induction l with
  | nil => rfl
  | cons r rs ih =>
    cases r with    -- as in `popOpt_of_noOpt`
    | opt o => exact absurd h (Nat.succ_ne_zero _)
    | rr => rw [swapOptAux, ih h]

theorem swapOptAux_lastOpt (a : List RR) (o : Opt) {b : List RR} (h : countOpt b = 0) :
    swapOptAux (a ++ RR.opt o :: b) = some (a ++ RR.opt freshOpt :: b, o) := by
  induction a with
  | nil => simp [swapOptAux, swapOptAux_of_noOpt h]
  | cons r a ih => simp [swapOptAux, ih]

/-- `popOpt` removes exactly one OPT (the last) when there is one, and nothing else. -/
theorem popOpt_count (l : List RR) : countOpt (popOpt l).1 = countOpt l - 1 := by
  rcases lastOpt_cases l with h | ⟨a, o, b, rfl, hb⟩
  · simp [popOpt_of_noOpt h, h]
  · simp [popOpt_lastOpt a o hb, countOpt_append, countOpt_opt_cons]

theorem countOpt_popOpt_eq_zero {l : List RR} (h : countOpt l ≤ 1) : countOpt (popOpt l).1 = 0 :=
  (popOpt_count l).trans (Nat.sub_eq_zero_of_le h)

theorem popOpt_nonopt (l : List RR) : (popOpt l).1.filter (fun r => !r.isOpt) = l.filter (fun r => !r.isOpt) := by
  rcases lastOpt_cases l with h | ⟨a, o, b, rfl, hb⟩
  · rw [popOpt_of_noOpt h]
  · simp [popOpt_lastOpt a o hb]

theorem popOpt_mem {l : List RR} {o : Opt} (h : (popOpt l).2 = some o) : RR.opt o ∈ l := by
  rcases lastOpt_cases l with h0 | ⟨a, o', b, rfl, hb⟩
  · simp [popOpt_of_noOpt h0] at h
  · obtain rfl : o' = o := by simpa [popOpt_lastOpt a o' hb] using h
    simp

theorem swapOpt_mem {l : List RR} {o : Opt} (h : (swapOpt l).2 = some o) : RR.opt o ∈ l := by
  rcases lastOpt_cases l with h0 | ⟨a, o', b, rfl, hb⟩
  · simp [swapOpt, swapOptAux_of_noOpt h0] at h
  · obtain rfl : o' = o := by simpa [swapOpt, swapOptAux_lastOpt a o' hb] using h
    simp

theorem swapOptAux_none (l : List RR) : swapOptAux l = none ↔ countOpt l = 0 := by
  rcases lastOpt_cases l with h | ⟨a, o, b, rfl, hb⟩
  · simp [swapOptAux_of_noOpt h, h]
  · simp [swapOptAux_lastOpt a o hb, countOpt_append, countOpt_opt_cons]

theorem swapOptAux_count (l l' : List RR) (o : Opt) (h : swapOptAux l = some (l', o)) :
    countOpt l' = countOpt l ∧ l'.filter (fun r => !r.isOpt) = l.filter (fun r => !r.isOpt) := by
  rcases lastOpt_cases l with h0 | ⟨a, o', b, rfl, hb⟩
  · simp [swapOptAux_of_noOpt h0] at h
  · obtain ⟨rfl, rfl⟩ : _ ∧ _ := by simpa [swapOptAux_lastOpt a o' hb] using h
    simp [countOpt_append, countOpt_opt_cons]

theorem swapOpt_isSome (l : List RR) : (swapOpt l).2.isSome ↔ countOpt l ≠ 0 := by
  rw [Ne, ← swapOptAux_none, swapOpt]
  cases swapOptAux l <;> simp

/-- What `addNewAndSwapOldOpt` leaves of a record list with at most one OPT: one OPT, which is fresh, and every other record. -/
theorem swapOpt_one_fresh {l : List RR} (h : countOpt l ≤ 1) :
    countOpt (swapOpt l).1 = 1 ∧ (∀ o, RR.opt o ∈ (swapOpt l).1 → o = freshOpt) ∧
    (swapOpt l).1.filter (fun r => !r.isOpt) = l.filter (fun r => !r.isOpt) := by
  rcases lastOpt_cases l with h0 | ⟨a, o, b, rfl, hb⟩
  · -- the fresh OPT is appended; left over: `countOpt [.opt freshOpt] = 1`
    simp [swapOpt, swapOptAux_of_noOpt h0, countOpt_append, h0, countOpt_eq_zero.mp h0]
    rfl
  · -- the one OPT is replaced: there is none in `a` either
    have ha : countOpt a = 0 := by rw [countOpt_append, countOpt_opt_cons] at h; omega
    simp [swapOpt, swapOptAux_lastOpt a o hb, countOpt_append, countOpt_opt_cons, ha, hb, countOpt_eq_zero.mp ha,
      countOpt_eq_zero.mp hb]

theorem validQuery_countOpt {q : Msg} (hv : validQuery q = true) : countOpt q.extra ≤ 1 :=
  Nat.le_trans (List.length_filter_le ..) (of_decide_eq_true (Bool.and_eq_true_iff.mp hv).2)

/-- **The query sent upstream carries exactly one OPT and it is fresh**, for
every valid client query (no OPT / one OPT with any size, DO, version,
options): `NewContext` replaces or adds; every other record is untouched. -/
theorem upstream_one_fresh_opt (q : Msg) (hv : validQuery q = true) :
    countOpt (newContext q).q.extra = 1 ∧
    (∀ o, RR.opt o ∈ (newContext q).q.extra → o = freshOpt) ∧
    (newContext q).q.extra.filter (fun r => !r.isOpt) = q.extra.filter (fun r => !r.isOpt) :=
  swapOpt_one_fresh (validQuery_countOpt hv)

/-- the fresh OPT carries none of the client's options and DO is clear -/
theorem fresh_is_empty : freshOpt.options = [] ∧ freshOpt.doBit = false ∧ freshOpt.udpSize = 1200 := ⟨rfl, rfl, rfl⟩

theorem respOpt_iff (q : Msg) (hv : validQuery q = true) :
    ((newContext q).respOpt.isSome ↔ countOpt q.extra = 1) ∧
    (∀ ro, (newContext q).respOpt = some ro → ro.options = [] ∧
      ∃ co, (newContext q).clientOpt = some co ∧ RR.opt co ∈ q.extra ∧ ro.doBit = co.doBit) := by
  constructor
  · -- there is one iff `swapOpt` found a client OPT, and a valid query has at most one
    have := validQuery_countOpt hv
    show ((swapOpt q.extra).2.map _).isSome ↔ _
    rw [Option.isSome_map, swapOpt_isSome]
    omega
  · -- it is the fresh OPT with the DO bit of the client OPT, which `swapOpt` took from the query
    intro ro h
    obtain ⟨co, hco, rfl⟩ := Option.map_eq_some_iff.mp h
    exact ⟨rfl, co, hco, swapOpt_mem hco, rfl⟩

theorem setResponse_strips (c : Ctx) (m : Msg) (h1 : countOpt m.extra ≤ 1) :
    ∃ r, (c.setResponse (some m)).resp = some r ∧ countOpt r.extra = 0 ∧
      r.extra.filter (fun x => !x.isOpt) = m.extra.filter (fun x => !x.isOpt) ∧
      r.answer = m.answer ∧ r.ns = m.ns ∧
      (c.setResponse (some m)).respOpt = c.respOpt ∧ (c.setResponse (some m)).clientOpt = c.clientOpt :=
  ⟨_, rfl, countOpt_popOpt_eq_zero h1, popOpt_nonopt _, rfl, rfl, rfl, rfl⟩

theorem finish_extra (truncate : Msg → Nat → Msg) (c : Ctx) (m : Msg) :
    (finish truncate false c m).extra = m.extra ++ (match c.respOpt with | some o => [.opt o] | none => []) := by
  unfold finish
  cases c.respOpt <;> simp

theorem finish_opts (truncate : Msg → Nat → Msg) (c : Ctx) {m : Msg} (h : countOpt m.extra = 0) :
    countOpt (finish truncate false c m).extra = (if c.respOpt.isSome then 1 else 0) ∧
    ∀ o, RR.opt o ∈ (finish truncate false c m).extra ↔ c.respOpt = some o := by
  rw [finish_extra]
  cases c.respOpt with
  | none => simpa [h] using countOpt_eq_zero.mp h    -- left over: no `.opt o` is in `m.extra`
  | some ro =>
    -- left over, `.opt o ∈ m.extra` being false: `countOpt [.opt ro] = 1` and `o = ro ↔ ro = o`
    simpa [countOpt_append, h, countOpt_eq_zero.mp h] using ⟨rfl, fun o => eq_comm⟩

theorem base_noOpt (c : Ctx) (failed : Bool) (h : ∀ r, c.resp = some r → countOpt r.extra = 0) :
    countOpt (base c failed).extra = 0 := by
  unfold base
  split
  · rfl
  · split
    · next r hr => exact h r hr
    · rfl

/-- What `Handle` sends, from three facts about the context `entry` leaves: its response carries no OPT (`hstrip`), its response OPT
has the DO bit `NewContext` gave it (`hdo`), and every option of that OPT satisfies `P` (`hopt`). -/
theorem reply_opt_of {entry : Ctx → Ctx × Bool} {truncate : Msg → Nat → Msg} (q : Msg) (hv : validQuery q = true)
    {P : Nat × Nat → Prop}
    (hstrip : ∀ r, (entry (newContext q)).1.resp = some r → countOpt r.extra = 0)
    (hdo : (entry (newContext q)).1.respOpt.map (·.doBit) = (newContext q).respOpt.map (·.doBit))
    (hopt : ∀ ro, (entry (newContext q)).1.respOpt = some ro → ∀ p ∈ ro.options, P p) :
    ∃ r, reply entry truncate false q = some r ∧
      countOpt r.extra = (if countOpt q.extra = 1 then 1 else 0) ∧
      ∀ o, RR.opt o ∈ r.extra → (∃ co, RR.opt co ∈ q.extra ∧ o.doBit = co.doBit) ∧ ∀ p ∈ o.options, P p := by
  obtain ⟨hiff, hro⟩ := respOpt_iff q hv
  unfold reply
  simp only [hv, Bool.not_true, Bool.false_eq_true, if_false]
  refine ⟨_, rfl, ?_⟩
  generalize entry (newContext q) = R at *
  obtain ⟨hcnt, hmem⟩ := finish_opts truncate R.1 (base_noOpt R.1 R.2 hstrip)
  have hsome : R.1.respOpt.isSome = (newContext q).respOpt.isSome := by simpa using congrArg Option.isSome hdo
  refine ⟨by simp only [hcnt, hsome, hiff], fun o ho => ?_⟩
  have hR := (hmem o).mp ho
  obtain ⟨ro0, hN, hd⟩ : ∃ ro0, (newContext q).respOpt = some ro0 ∧ ro0.doBit = o.doBit := by
    simpa [hR] using hdo.symm
  obtain ⟨_, co, _, hco, hd'⟩ := hro _ hN
  exact ⟨⟨co, hco, by rw [← hd, hd']⟩, hopt _ hR⟩

/-- **The reply carries exactly one OPT iff the client's query had one**, with
the DO bit mirrored, and **none of the upstream's options** - for every
client query, every upstream reply with at most one OPT (any options, any
extended rcode), and every entry that does not forward options explicitly
(it may be any chain that leaves `respOpt`/`clientOpt` alone and sets
responses through `SetResponse`). Stated for the message before truncation
(`Truncate` keeps the OPT: library contract, checked by the correspondence). -/
theorem reply_opt_iff (entry : Ctx → Ctx × Bool) (q : Msg) (hv : validQuery q = true)
    (hkeep : (entry (newContext q)).1.respOpt = (newContext q).respOpt)
    (hstrip : ∀ r, (entry (newContext q)).1.resp = some r → countOpt r.extra = 0)
    (truncate : Msg → Nat → Msg) :
    ∃ r, reply entry truncate false q = some r ∧
      countOpt r.extra = (if countOpt q.extra = 1 then 1 else 0) ∧
      (∀ o, RR.opt o ∈ r.extra → o.options = [] ∧ ∃ co, RR.opt co ∈ q.extra ∧ o.doBit = co.doBit) := by
  obtain ⟨r, hr, hc, ho⟩ := reply_opt_of (P := fun _ => False) q hv hstrip (by rw [hkeep])
    (by rw [hkeep]; intro ro h p hp; rw [((respOpt_iff q hv).2 ro h).1] at hp; cases hp)
  exact ⟨r, hr, hc, fun o h => ⟨List.eq_nil_iff_forall_not_mem.mpr (ho o h).2, (ho o h).1⟩⟩

/-- **A client that did not send an OPT never gets one, extended rcode or not**: under the hypotheses of
`reply_opt_iff`, if the reply carries an extended rcode (above 15: BADVERS, BADCOOKIE, ...) and the client's query
had no OPT, the message is not packable and nothing is sent (rather than an OPT being made up for it). -/
theorem ext_rcode_without_client_opt_is_dropped (entry : Ctx → Ctx × Bool) (q : Msg) (hv : validQuery q = true)
    (hkeep : (entry (newContext q)).1.respOpt = (newContext q).respOpt)
    (hstrip : ∀ r, (entry (newContext q)).1.resp = some r → countOpt r.extra = 0)
    (truncate : Msg → Nat → Msg) (hno : countOpt q.extra ≠ 1) (r : Msg)
    (hr : reply entry truncate false q = some r) (hext : 15 < r.rcode) : packable r = false := by
  obtain ⟨r', hr', hc, _⟩ := reply_opt_iff entry q hv hkeep hstrip truncate
  rw [hr] at hr'
  cases hr'
  simp only [hno, if_false] at hc
  -- no OPT in the reply and an rcode above 15: neither disjunct of `packable`
  simp [packable, countOpt_msg, hc, hext]

/-- Locally generated answers and upstream answers (≤ 1 OPT) satisfy the
hypotheses of `reply_opt_iff`; so do cache hits because stored copies contain
no OPT (C05 `stored_no_opt`). -/
theorem upstream_entry_ok (up : Msg → Msg) (hup : ∀ m, countOpt (up m).extra ≤ 1) (c : Ctx) :
    (upstreamAnswer (up c.q) c).respOpt = c.respOpt ∧
    ∀ r, (upstreamAnswer (up c.q) c).resp = some r → countOpt r.extra = 0 := by
  obtain ⟨r, hr, h0, _, _, _, h5, _⟩ := setResponse_strips c (up c.q) (hup c.q)
  exact ⟨h5, fun r' hr' => Option.some.inj (hr.symm.trans hr') ▸ h0⟩

/-! ### The cache entry across transactions (chains of forward_edns0opt / ecs_handler / ttl around a cache) -/
section CacheLife
open Model.C15

/-- **The regenerated facts are the ones the theorems need**: `copyNoOpt` always returns a new message (the entry is
never the live response), `addECS` reports "forwarded" only when the client's own option went upstream, and a context
copy has a response OPT of its own. -/
theorem genCode_clean : genCode = clean := rfl    -- the three facts evaluate

theorem copyNoOpt_count (m : Msg) : countOpt (copyNoOpt m).extra = 0 := by
  simp [copyNoOpt, countOpt, List.filter_filter]

theorem exec_slot_ok (up : Up) (ps : List Plugin) (c : Ctx) (s : Slot) (hs : s.ok) :
    (exec clean up ps c s).slot.ok := by
  fun_induction exec clean up ps c s
  case case1 | case2 | case3 | case4 => exact hs    -- the end of the chain
  case case11 => exact copyNoOpt_count _            -- the cache plugin, a miss whose response is stored: as a copy without OPT
  -- `case5` ttl, `case6` `case7` forward_edns0opt, `case8` to `case10` ecs_handler, `case12` `case13` the cache plugin otherwise:
  -- each hands on the slot the rest of the chain left
  case case5 ih | case6 ih | case7 ih | case8 ih | case9 ih | case10 ih | case12 ih | case13 ih => exact ih hs

/-- **Cached answers never contain an OPT**: whatever the chain (forwarders, ecs_handler and ttl in any order around
the cache), the client's query, the upstream's outcome and OPT, every transaction through `Handle` leaves an entry
without OPT behind - with `copyNoOpt` as regenerated (`genCode`). -/
theorem cached_never_contains_opt (chain : List Plugin) (up : Up) (q : Msg) (s : Slot) (hs : s.ok) :
    (transact genCode chain up q s).slot.ok := by
  rw [genCode_clean]
  unfold transact
  split
  · exact hs
  · have h := exec_slot_ok up chain (newContext q) s hs
    generalize exec clean up chain (newContext q) s = R at h ⊢
    -- only a `live` slot is looked at again after `Handle`, and an `ok` slot is not `live`
    obtain ⟨_, _, sl, _⟩ := R
    cases sl with
    | empty => trivial
    | own m => exact h
    | live => exact h.elim

/-- a `copyNoOpt` that hands back its argument when there is no OPT to strip -/
def leakCode : Code := { clean with aliases := fun m => countOpt m.extra == 0 }
def leakChain : List Plugin := [.fwd [10], .cache]
def leakQ1 : Msg := { id := 1, question := [⟨[97], 1, 1⟩], extra := [.opt { udpSize := 1232, doBit := false, options := [(10, 1)] }] }
def leakQ2 : Msg := { id := 2, question := [⟨[97], 1, 1⟩], extra := [.opt { udpSize := 512, doBit := true, options := [] }] }
def leakT1 : Tx := transact leakCode leakChain (.ans 0 1 [.opt { udpSize := 1232, doBit := false, options := [(10, 77)] }]) leakQ1 .empty
def leakT2 : Tx := transact leakCode leakChain .none leakQ2 leakT1.slot
def replyOptions (t : Tx) : Option (List (List (Nat × Nat))) :=
  t.reply.map (fun r => r.extra.filterMap (fun x => match x with | .opt o => some o.options | _ => none))

/-- Why the fact is needed: if `copyNoOpt` handed back its argument when there is no OPT to strip, the entry filled by
an EDNS0 client would contain that client's response OPT once `Handle` is done with the response, and the next client
served from the cache through a forwarding plugin would be sent the first exchange's cookie. -/
theorem alias_leaks : ¬ leakT1.slot.ok ∧ replyOptions leakT2 = some [[(10, 77)]] := by
  decide

/-- the same two exchanges with `copyNoOpt` as it is: a clean entry, and the second client gets a bare OPT -/
example : (transact clean leakChain (.ans 0 1 [.opt { udpSize := 1232, doBit := false, options := [(10, 77)] }]) leakQ1 .empty).slot.ok ∧
    replyOptions (transact clean leakChain .none leakQ2
      (transact clean leakChain (.ans 0 1 [.opt { udpSize := 1232, doBit := false, options := [(10, 77)] }]) leakQ1 .empty).slot) = some [[]] ∧
    replyOptions (transact clean leakChain (.ans 0 1 [.opt { udpSize := 1232, doBit := false, options := [(10, 77)] }]) leakQ1 .empty) = some [[(10, 77)]] := by
  decide

def ecsChain : List Plugin := [.ecs true (some 100)]
def ecsQ : Msg := { id := 3, question := [⟨[97], 1, 1⟩], extra := [.opt { udpSize := 1232, doBit := false, options := [(10, 1)] }] }
def ecsUp : Up := .ans 0 1 [.opt { udpSize := 1232, doBit := false, options := [(8, 7), (10, 9)] }]

/-- Why `c15EcsForwardedLoosePaths` is needed: `forward` together with `preset` / `send` is the documented "the client's
subnet if it sent one, otherwise ours" set-up. If `addECS` reported "forwarded" whenever `forward` is set, a client whose
OPT has no client-subnet option would be handed the upstream's echo of the operator's preset address. -/
theorem ecs_loose_leaks :
    replyOptions (transact { clean with ecsLoose := true } ecsChain ecsUp ecsQ .empty) = some [[(8, 7)]] ∧
    replyOptions (transact clean ecsChain ecsUp ecsQ .empty) = some [[]] ∧
    replyOptions (transact clean ecsChain ecsUp { ecsQ with extra := [.opt { udpSize := 1232, doBit := false, options := [(8, 1)] }] } .empty) = some [[(8, 7)]] := by
  decide

/-- the client sent a client-subnet option -/
def clientHasEcs (clo : Option Opt) : Prop := ∃ co, clo = some co ∧ ∃ p ∈ co.options, p.1 = 8

/-- what holds of a context while the chain runs: no OPT in the response, the upstream OPT is the one of this
exchange's upstream answer, and every option of the response OPT was forwarded explicitly from it -/
structure Inv (ex : List RR) (allow : Nat → Prop) (clo : Option Opt) (c : Ctx) : Prop where
  resp : ∀ r, c.resp = some r → countOpt r.extra = 0
  upo : ∀ o, c.upstreamOpt = some o → RR.opt o ∈ ex
  ro : ∀ ro, c.respOpt = some ro → ∀ p ∈ ro.options, allow p.1 ∧ ∃ uo, RR.opt uo ∈ ex ∧ p ∈ uo.options
  cl : c.clientOpt = clo

section
variable {ex : List RR} {allow : Nat → Prop} {clo : Option Opt} {c : Ctx}

theorem setResponse_inv {m : Msg} (hc : Inv ex allow clo c) (hm : countOpt m.extra ≤ 1)
    (hsub : ∀ o, RR.opt o ∈ m.extra → RR.opt o ∈ ex) : Inv ex allow clo (c.setResponse (some m)) :=
  ⟨fun _ hr => Option.some.inj hr ▸ countOpt_popOpt_eq_zero hm, fun o ho => hsub o (popOpt_mem ho), hc.ro, hc.cl⟩

theorem setResponse_inv_of_noOpt {m : Msg} (hc : Inv ex allow clo c) (hm : countOpt m.extra = 0) :
    Inv ex allow clo (c.setResponse (some m)) :=
  setResponse_inv hc (by omega) fun o ho => absurd ho (countOpt_eq_zero.mp hm o)

theorem Inv.withQ (hc : Inv ex allow clo c) (q : Msg) : Inv ex allow clo { c with q := q } :=
  ⟨hc.resp, hc.upo, hc.ro, hc.cl⟩

/-- `addQOpts` changes the query only -/
theorem addQOpts_eq (cs : List Nat) (c : Ctx) : addQOpts cs c = { c with q := (addQOpts cs c).q } := by
  unfold addQOpts; split <;> rfl

/-- and so does `addECS` -/
theorem addECS_eq (loose fw : Bool) (own : Option Nat) (c : Ctx) :
    (addECS loose fw own c).1 = { c with q := (addECS loose fw own c).1.q } := by
  -- every arm returns `c` or `appendQ _ c`
  unfold addECS appendQ
  repeat' split
  all_goals rfl

theorem Inv.addQOpts (hc : Inv ex allow clo c) (cs : List Nat) : Inv ex allow clo (addQOpts cs c) :=
  addQOpts_eq cs c ▸ hc.withQ _

theorem Inv.addECS (hc : Inv ex allow clo c) (loose fw : Bool) (own : Option Nat) :
    Inv ex allow clo (addECS loose fw own c).1 :=
  addECS_eq loose fw own c ▸ hc.withQ _

theorem addECS_forwarded {fw : Bool} {own : Option Nat} (h : (addECS false fw own c).2 = true) :
    fw = true ∧ clientHasEcs c.clientOpt := by
  unfold addECS at h
  split at h
  · cases h
  · split at h
    · next o ho =>
      cases fw with
      | false => simp [clientEcs] at ho
      | true =>
        obtain ⟨co, hco, hf⟩ : ∃ co, c.clientOpt = some co ∧ co.options.find? isEcs = some o := by
          simpa [clientEcs, Option.bind_eq_some_iff] using ho
        exact ⟨rfl, co, hco, o, List.mem_of_find?_eq_some hf, by simpa [isEcs] using List.find?_some hf⟩
    · split at h <;> simp at h

theorem Inv.addOptions (hc : Inv ex allow clo c) {uo ro : Opt} (huo : c.upstreamOpt = some uo) (hro : c.respOpt = some ro)
    {add : List (Nat × Nat)} (hadd : ∀ p ∈ add, allow p.1 ∧ p ∈ uo.options) :
    Inv ex allow clo { c with respOpt := some { ro with options := ro.options ++ add } } := by
  refine ⟨hc.resp, hc.upo, ?_, hc.cl⟩
  intro _ h p hp
  obtain rfl := Option.some.inj h
  rcases List.mem_append.mp hp with hp | hp
  · exact hc.ro ro hro p hp
  · exact ⟨(hadd p hp).1, uo, hc.upo uo huo, (hadd p hp).2⟩

theorem fwdBack_inv {cs : List Nat} (hc : Inv ex allow clo c) (hcs : ∀ x ∈ cs, allow x) :
    Inv ex allow clo (fwdBack cs c) := by
  unfold fwdBack
  split
  · next uo ro huo hro =>
    exact hc.addOptions huo hro fun p hp =>
      have ⟨hm, hcode⟩ := List.mem_filter.mp hp
      ⟨hcs p.1 (List.contains_iff_mem.mp hcode), hm⟩
  · exact hc

theorem ecsBack_inv (hc : Inv ex allow clo c) (h8 : allow 8) : Inv ex allow clo (ecsBack c) := by
  unfold ecsBack
  split
  · next ro uo hro huo =>
    split
    · next o ho =>
      refine hc.addOptions huo hro fun p hp => ?_
      obtain rfl : p = o := by simpa using hp
      have : p.1 = 8 := by simpa [isEcs] using List.find?_some ho
      exact ⟨this ▸ h8, List.mem_of_find?_eq_some ho⟩
    · exact hc
  · exact hc

theorem fwdBack_doBit (cs : List Nat) (c : Ctx) : (fwdBack cs c).respOpt.map (·.doBit) = c.respOpt.map (·.doBit) := by
  unfold fwdBack
  split
  · next hro => rw [hro]; rfl
  · rfl

theorem ecsBack_doBit (c : Ctx) : (ecsBack c).respOpt.map (·.doBit) = c.respOpt.map (·.doBit) := by
  unfold ecsBack
  split
  · next hro _ =>
    split
    · rw [hro]; rfl
    · rfl
  · rfl

end

theorem mem_plugCodes_cons (p : Plugin) {ps : List Plugin} {x : Nat} (h : x ∈ plugCodes ps) : x ∈ plugCodes (p :: ps) := by
  cases p <;> simp [plugCodes, h]

theorem ecsForwards_cons (p : Plugin) {ps : List Plugin} (h : ecsForwards ps = true) : ecsForwards (p :: ps) = true := by
  cases p <;> simp [ecsForwards, h]

theorem exec_cache_c (k : Code) (up : Up) (ps : List Plugin) (c : Ctx) (s : Slot) :
    (exec k up (.cache :: ps) c s).c = (exec k up ps (match s with | .own m => cacheHit m c | _ => c) s).c := by
  simp only [exec]
  cases s with
  | own m => rfl    -- a hit: the final `match` returns what the rest of the chain returned
  | _ =>
    -- a miss: it returns that with another slot if the response is stored, and as it is otherwise
    split
    · split <;> rfl
    · rfl

theorem exec_inv {up : Up} {allow : Nat → Prop} {clo : Option Opt} (hex : countOpt up.extra ≤ 1) {ps : List Plugin}
    (hps : ∀ x ∈ plugCodes ps, allow x) (hecs : ecsForwards ps = true → clientHasEcs clo → allow 8)
    {c : Ctx} {s : Slot} (hs : s.ok) (hc : Inv up.extra allow clo c) :
    Inv up.extra allow clo (exec clean up ps c s).c := by
  induction ps generalizing c with
  | nil =>
    unfold exec
    split
    · exact hc                                       -- a response is there already
    · exact setResponse_inv hc hex fun o h => h      -- the upstream answers
    · exact hc                                       -- it does not
    · exact hc                                       -- it fails
  | cons p ps ih =>
    have ih {c} := ih (c := c) (fun x hx => hps x (mem_plugCodes_cons p hx)) fun h => hecs (ecsForwards_cons p h)
    cases p with
    | ttl => exact ih hc
    | fwd cs =>
      have h1 := ih (hc.addQOpts cs)
      simp only [exec]
      split
      · exact h1
      · exact fwdBack_inv h1 fun x hx => hps x (by simp [plugCodes, hx])
    | ecs fw own =>
      have h1 := ih (hc.addECS false fw own)
      simp only [exec]
      split
      · exact h1
      · split
        · next hfw =>
          obtain ⟨rfl, hcl⟩ := addECS_forwarded hfw
          exact ecsBack_inv h1 (hecs (by simp [ecsForwards]) (hc.cl ▸ hcl))
        · exact h1
    | cache =>
      rw [exec_cache_c]
      cases s with
      | own m => exact ih (setResponse_inv_of_noOpt hc hs)
      | _ => exact ih hc

theorem exec_respOpt (k : Code) (up : Up) (ps : List Plugin) (c : Ctx) (s : Slot) :
    (exec k up ps c s).c.respOpt.map (·.doBit) = c.respOpt.map (·.doBit) := by
  induction ps generalizing c with
  -- `setResponse` (the upstream's answer here, `cacheHit` in the cache arm) leaves `respOpt` alone, by computation
  | nil => unfold exec; split <;> rfl
  | cons p ps ih =>
    cases p with
    | ttl => exact ih c
    | fwd cs =>
      have h1 := (ih (addQOpts cs c)).trans (by rw [addQOpts_eq])
      simp only [exec]
      split
      · exact h1
      · exact (fwdBack_doBit ..).trans h1
    | ecs fw own =>
      have h1 := (ih (addECS k.ecsLoose fw own c).1).trans (by rw [addECS_eq])
      simp only [exec]
      split
      · exact h1
      · split
        · exact (ecsBack_doBit _).trans h1
        · exact h1
    | cache =>
      rw [exec_cache_c, ih]
      cases s <;> rfl

/-- which option codes a chain may hand from the upstream's OPT to the client: the codes listed by its
forward_edns0opt plugins, and the client-subnet code if an ecs_handler has `forward` set AND the client's own query
carried a client-subnet option (what is forwarded is the client's option; an upstream's echo of an address of the
handler's own making is not for the client) -/
def allowed (chain : List Plugin) (q : Msg) (code : Nat) : Prop :=
  code ∈ plugCodes chain ∨
  (code = 8 ∧ ecsForwards chain = true ∧ ∃ co, RR.opt co ∈ q.extra ∧ ∃ p ∈ co.options, p.1 = 8)

theorem newContext_inv (q : Msg) {ex : List RR} {allow : Nat → Prop} :
    Inv ex allow (newContext q).clientOpt (newContext q) := by
  -- no response, no upstream OPT (said by ascription: `nofun` finds it, slowly), and a response OPT without options
  refine ⟨fun r (h : none = some r) => (nomatch h), fun o (h : none = some o) => (nomatch h), fun ro h p hp => ?_, rfl⟩
  obtain ⟨o, -, rfl⟩ := Option.map_eq_some_iff.mp h
  cases hp

theorem clientHasEcs_query {q : Msg} (h : clientHasEcs (newContext q).clientOpt) :
    ∃ co, RR.opt co ∈ q.extra ∧ ∃ p ∈ co.options, p.1 = 8 := by
  obtain ⟨co, hco, hp⟩ := h
  exact ⟨co, swapOpt_mem hco, hp⟩

theorem transact_reply (k : Code) (chain : List Plugin) (up : Up) (q : Msg) (s : Slot) :
    (transact k chain up q s).reply = reply (entry k up chain s) (fun m _ => m) false q := by
  unfold transact reply; split <;> rfl

/-- **The reply carries exactly one OPT iff the client's query had one, DO mirrored, and every option in it was
forwarded explicitly (its code is listed by a forward_edns0opt plugin of the chain, or it is the client-subnet option,
an ecs_handler of the chain has `forward` set and the client's own query carried a client-subnet option) from the OPT of
the upstream answer of this very exchange** - for every chain of forwarders / ecs_handler / ttl around a cache,
whatever the cache holds (an entry without OPT, which `cached_never_contains_opt` maintains), every client query and
every upstream outcome with at most one OPT. In particular nothing of an earlier exchange comes back, a client that
sent no client-subnet option is not handed the upstream's echo of ecs_handler's preset, and when the upstream gave no
OPT (or no answer) the reply's OPT has no options. -/
theorem reply_opt_this_exchange (chain : List Plugin) (up : Up) (q : Msg) (s : Slot)
    (hv : validQuery q = true) (hs : s.ok) (hex : countOpt up.extra ≤ 1) :
    ∃ r, (transact genCode chain up q s).reply = some r ∧
      countOpt r.extra = (if countOpt q.extra = 1 then 1 else 0) ∧
      ∀ o, RR.opt o ∈ r.extra → (∃ co, RR.opt co ∈ q.extra ∧ o.doBit = co.doBit) ∧
        ∀ p ∈ o.options, allowed chain q p.1 ∧ ∃ uo, RR.opt uo ∈ up.extra ∧ p ∈ uo.options := by
  rw [genCode_clean, transact_reply]
  have hI : Inv up.extra (allowed chain q) _ (exec clean up chain (newContext q) s).c :=
    exec_inv hex (fun x hx => Or.inl hx) (fun he hc => Or.inr ⟨rfl, he, clientHasEcs_query hc⟩) hs
      (newContext_inv q)
  exact reply_opt_of q hv hI.resp (exec_respOpt ..) hI.ro

/-! ### Sub-queries on copies of the context -/

def Branch.extra : Option Branch → List RR
  | some b => b.up.extra
  | none => []

def Branch.plugins : Option Branch → List Plugin
  | some b => b.chain
  | none => []

/-- with a response OPT of its own in every copy, the discarded sub-queries might as well not have run -/
theorem fork_clean_discarded (mode : Adopt) (ds : List Branch) (w : Option Branch) (c : Ctx) :
    fork clean mode ds w c = fork clean mode [] w c := by
  -- `clean.copyShares` is `false`: every step of the fold returns the `ro` it was given, by computation
  have : ds.foldl (fun ro b => if clean.copyShares then (runOn clean b { c with respOpt := ro }).c.respOpt else ro) c.respOpt = c.respOpt :=
    List.foldlRecOn (motive := (· = c.respOpt)) ds _ rfl fun _ h _ _ => h
  unfold fork
  rw [this]; rfl

/-- **fallback hands the client no upstream option at all**: the adopted response is set with `SetResponse` on the
parent, whose response OPT no sub-query can reach. -/
theorem fork_fallback_respOpt (ds : List Branch) (w : Option Branch) (c : Ctx) :
    (fork clean .fallback ds w c).1.respOpt = c.respOpt := by
  rw [fork_clean_discarded]
  cases w with
  | none => rfl
  | some b => simp only [fork, clean]; split <;> rfl

/-- **With a response OPT of its own in every context copy, the parent's response OPT is out of reach of the
sub-queries**: whatever the discarded sub-queries did (any chains, any upstream answers), after `fork` the context
carries no OPT in its response and every option of its response OPT was forwarded explicitly from the upstream answer of
the sub-query whose result was adopted. -/
theorem fork_inv (mode : Adopt) (ds : List Branch) (w : Option Branch) (allow : Nat → Prop) (clo : Option Opt)
    (hex : countOpt (Branch.extra w) ≤ 1)
    (hstored : ∀ m, mode = .lazy m → countOpt m.extra = 0)
    (hps : ∀ x ∈ plugCodes (Branch.plugins w), allow x)
    (hecs : ecsForwards (Branch.plugins w) = true → clientHasEcs clo → allow 8)
    (c : Ctx) (hc : Inv (Branch.extra w) allow clo c) :
    Inv (Branch.extra w) allow clo (fork clean mode ds w c).1 := by
  rw [fork_clean_discarded]
  cases w with
  | none =>
    -- no sub-query is adopted: the parent is left alone or given a response without OPT (empty reply, the stale entry)
    cases mode with
    | fallback => exact hc
    | selector => exact setResponse_inv_of_noOpt hc rfl
    | «lazy» stored => exact setResponse_inv_of_noOpt hc (hstored stored rfl)
  | some b =>
    have hrun : ∀ {c}, Inv b.up.extra allow clo c → Inv b.up.extra allow clo (runOn clean b c).c :=
      fun hc => exec_inv (s := .empty) hex hps hecs trivial hc
    cases mode with
    | fallback =>
      have h1 := hrun hc
      -- `clean` is unfolded for its `copyShares = false`; the `{ c with respOpt := c.respOpt }` of the model is then
      -- spelled out field by field, which is `c` again (eta) where `hc` and `h1` are used
      simp only [fork, clean, Bool.false_eq_true, if_false, List.foldl_nil]
      split
      · next m _ hm => exact setResponse_inv_of_noOpt hc (h1.resp m hm)
      · exact hc
    | selector => exact hrun hc
    | «lazy» stored => exact hrun (setResponse_inv_of_noOpt hc (hstored stored rfl))

theorem fork_respOpt (mode : Adopt) (ds : List Branch) (w : Option Branch) (c : Ctx) :
    (fork clean mode ds w c).1.respOpt.map (·.doBit) = c.respOpt.map (·.doBit) := by
  cases mode with
  | fallback => rw [fork_fallback_respOpt]
  | selector =>
    rw [fork_clean_discarded]
    cases w with
    | none => rfl    -- blocked: the empty reply is set with `setResponse`
    | some b => exact exec_respOpt clean b.up b.chain c .empty
  | «lazy» stored =>
    rw [fork_clean_discarded]
    -- the parent takes the stale entry (`cacheHit`: a `setResponse`) and walks the adopted chain itself
    exact exec_respOpt clean _ _ (cacheHit stored c) .empty

/-- **Plugins that run sub-queries on copies (fallback, dual_selector, the lazy cache's refresh) leak nothing of a
discarded sub-query**: with `Context.CopyTo` as regenerated, for every client query, every set of discarded sub-queries
(any chains of forwarders / ecs_handler, any upstream answers with any options) all finished before the reply is made,
the reply carries exactly one OPT iff the client's query had one, DO mirrored, and every option in it was forwarded
explicitly from the upstream answer of the adopted sub-query by a plugin of that sub-query. -/
theorem fork_reply (mode : Adopt) (ds : List Branch) (w : Option Branch) (q : Msg)
    (hv : validQuery q = true) (hex : countOpt (Branch.extra w) ≤ 1) (hstored : ∀ m, mode = .lazy m → countOpt m.extra = 0) :
    ∃ r, reply (fork genCode mode ds w) (fun m _ => m) false q = some r ∧
      countOpt r.extra = (if countOpt q.extra = 1 then 1 else 0) ∧
      ∀ o, RR.opt o ∈ r.extra → (∃ co, RR.opt co ∈ q.extra ∧ o.doBit = co.doBit) ∧
        ∀ p ∈ o.options, allowed (Branch.plugins w) q p.1 ∧ ∃ uo, RR.opt uo ∈ Branch.extra w ∧ p ∈ uo.options := by
  rw [genCode_clean]
  have hI := fork_inv mode ds w (allowed (Branch.plugins w) q) _ hex hstored (fun x hx => Or.inl hx)
    (fun he hc => Or.inr ⟨rfl, he, clientHasEcs_query hc⟩) _ (newContext_inv q)
  exact reply_opt_of q hv hI.resp (fork_respOpt ..) hI.ro

def forkQ : Msg := { id := 4, question := [⟨[97], 1, 1⟩], extra := [.opt { udpSize := 1232, doBit := true, options := [] }] }
def forkSec : Branch := ⟨[.fwd [65001]], .ans 0 1 [.opt { udpSize := 1232, doBit := false, options := [(65001, 7)] }]⟩
def forkPrim : Branch := ⟨[.fwd [65001]], .ans 0 1 [.opt { udpSize := 1232, doBit := false, options := [(65001, 9)] }]⟩
def forkOptions (k : Code) (mode : Adopt) (ds : List Branch) (w : Option Branch) (q : Msg) : Option (List (List (Nat × Nat))) :=
  (reply (fork k mode ds w) (fun m _ => m) false q).map (fun r => r.extra.filterMap (fun x => match x with | .opt o => some o.options | _ => none))

/-- Why `c15CopyToRespOptDeep` is needed: fallback with `forward_edns0opt 65001` in both branches, the secondary
(always_standby) finishing before the primary's answer arrives. If a copy shared the parent's response OPT, the client
would be handed the option of the discarded secondary answer as well, and the option code twice. -/
theorem shared_respOpt_leaks :
    forkOptions { clean with copyShares := true } .fallback [forkSec] (some forkPrim) forkQ = some [[(65001, 7), (65001, 9)]] ∧
    forkOptions clean .fallback [forkSec] (some forkPrim) forkQ = some [[]] ∧
    forkOptions { clean with copyShares := true } .selector [forkSec] (some forkPrim) forkQ = some [[(65001, 7), (65001, 9)]] ∧
    forkOptions clean .selector [forkSec] (some forkPrim) forkQ = some [[(65001, 9)]] := by
  decide

end CacheLife

/-! ### The header fields of the client's OPT (VERSION, extended-rcode byte) -/

/-- "The client's query had one": an OPT is an OPT whatever it says about itself. For a client OPT with **any** VERSION,
extended-rcode byte, UDP size and options (`o` is arbitrary) the reply carries exactly one OPT, without options, with that
OPT's DO bit - under the hypotheses of `reply_opt_iff`. -/
theorem reply_opt_any_header (entry : Ctx → Ctx × Bool) (q : Msg) (o : Opt) (hv : validQuery q = true)
    (hq : q.extra = [.opt o])
    (hkeep : (entry (newContext q)).1.respOpt = (newContext q).respOpt)
    (hstrip : ∀ r, (entry (newContext q)).1.resp = some r → countOpt r.extra = 0)
    (truncate : Msg → Nat → Msg) :
    ∃ r, reply entry truncate false q = some r ∧ countOpt r.extra = 1 ∧
      (∀ o', RR.opt o' ∈ r.extra → o'.options = [] ∧ o'.doBit = o.doBit) := by
  obtain ⟨r, hr, hc, ho⟩ := reply_opt_iff entry q hv hkeep hstrip truncate
  have h1 : countOpt q.extra = 1 := by rw [hq]; rfl
  refine ⟨r, hr, by simpa [h1] using hc, ?_⟩
  intro o' h'
  obtain ⟨hn, co, hco, hdo⟩ := ho o' h'
  obtain rfl : co = o := by simpa [hq] using hco
  exact ⟨hn, hdo⟩

/-- `NewContext` with a further condition on the client's OPT in front of the creation of the response OPT (the code:
`if ctx.clientOpt != nil { ctx.respOpt = newOpt() ... }`, no further condition). -/
def newContextCond (cond : Opt → Bool) (q : Msg) : Ctx :=
  let c := newContext q
  { c with respOpt := match c.clientOpt with
      | some co => if cond co then c.respOpt else none
      | none => c.respOpt }

/-- The regenerated count of such further conditions in `NewContext` (`Gen.Facts.c15RespOptExtraConds`); what one tests
is not known to the model, so with any of them no client OPT is taken to pass. -/
def genRespOptCond (_ : Opt) : Bool := Gen.Facts.c15RespOptExtraConds == some 0

/-- with the regenerated fact `NewContext` is the `newContext` all theorems above are about -/
theorem genContext_eq (q : Msg) : newContextCond genRespOptCond q = newContext q := by
  unfold newContextCond
  generalize newContext q = c
  cases c with
  | mk cq co resp ro uo => cases co <;> rfl    -- `genRespOptCond co` evaluates to `true`

def verQ : Msg := { id := 6, question := [⟨[97], 1, 1⟩], extra := [.opt { udpSize := 1232, doBit := true, version := 1, options := [] }] }
def verGate (o : Opt) : Bool := o.version == 0

/-- Why `c15RespOptExtraConds` is needed: were the response OPT created for clients announcing EDNS version 0 only, a
client whose OPT says VERSION 1 (DO set) would get a reply without any OPT - REFUSED, SERVFAIL or an answer alike - while
the code as it is hands it one OPT with DO set. -/
theorem version_gate_loses_opt :
    (newContextCond verGate verQ).respOpt = none ∧
    countOpt (finish (fun m _ => m) false (newContextCond verGate verQ) (base (newContextCond verGate verQ) false)).extra = 0 ∧
    countOpt (finish (fun m _ => m) false (newContextCond verGate verQ) (base (newContextCond verGate verQ) true)).extra = 0 ∧
    (newContext verQ).respOpt = some { freshOpt with doBit := true } ∧
    (reply (fun c => (c, false)) (fun m _ => m) false verQ).map (fun r => countOpt r.extra) = some 1 := by
  decide

-- `c10StoreCopies`: the cache plugin's one `backend.Store` stores `copyNoOpt(r)`, as the `cache` arm of `Model.C15.exec` does
theorem facts_guard :
    Gen.Facts.c15RespOptExtraConds = some 0 ∧
    Gen.Facts.c15NewContextSwapsOpt = some true ∧ Gen.Facts.c15SetResponsePopsOpt = some true ∧
    Gen.Facts.c15RespOptMirrorsDo = some true ∧ Gen.Facts.c15FreshOptShape = some true ∧
    Gen.Facts.c15CopyNoOptDropsOpt = some true ∧ Gen.Facts.c15OnlyEcsForwardsBack = some true ∧
    Gen.Facts.c15CopyNoOptAliasPaths = some 0 ∧ Gen.Facts.c10StoreCopies = some true ∧
    Gen.Facts.c15EcsForwardedLoosePaths = some 0 ∧ Gen.Facts.c15CopyToRespOptDeep = some true := by decide

def clientOpt : Opt := { udpSize := 4096, doBit := true, options := [(10, 1), (8, 2)] }
def upOpt : Opt := { udpSize := 1232, doBit := false, extRcode := 1, options := [(12, 7), (10, 9), (8, 3)] }
def qx : Question := ⟨[97], 1, 1⟩
def q1 : Msg := { id := 5, question := [qx], extra := [.opt clientOpt] }
def up (m : Msg) : Msg := { setReply m with answer := [.rr [97] 1 60 0], extra := [.rr [98] 1 60 1, .opt upOpt] }
example : (newContext q1).q.extra = [.opt freshOpt] := by decide
example : (reply (fun c => (upstreamAnswer (up c.q) c, false)) (fun m _ => m) false q1).map (·.extra) =
    some [.rr [98] 1 60 1, .opt { udpSize := 1200, doBit := true, options := [] }] := by decide
example : (reply (fun c => (upstreamAnswer (up c.q) c, false)) (fun m _ => m) false { q1 with extra := [] }).map (·.extra) =
    some [.rr [98] 1 60 1] := by decide

end Props.C15

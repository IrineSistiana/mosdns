import MosdnsVerif.Refine.C16
import MosdnsVerif.Lemmas.Stream
import MosdnsVerif.Gen.Facts

/-!
# C16 — stream framing is exact in both directions

The theorems that name a `Gen.*` function are about the definitions regenerated from `pkg/dnsutils/net_io.go`,
`pkg/upstream/transport/utils.go` and `pkg/pool/msg_buf.go`. The others (sequences of frames, the connection
loop, the DoQ stream) are about `Model.C16`, whose reader `readRaw` is `Gen.readRawMsgFromTCP` by
`Refine.C16.readRawMsgFromTCP_eq` and whose `frame` is each of the three regenerated writers by the other
`*_eq` lemmas of `Refine/C16`.
A stream is a list of chunks; a theorem "for every `cs` with
`cs.flatten = …`" is a theorem for every chunking of those bytes (1-byte
reads, split header, empty reads included).
-/
namespace Props.C16
open Model.C16 Go Lemmas.Stream

theorem frame_eq_some {m w : Bytes} : frame m = some w ↔ m.length ≤ 65535 ∧ w = hdr m.length ++ m := by
  rw [frame, Option.ite_none_left_eq_some, Nat.not_lt, Option.some_inj, eq_comm]

/-- **C16 (round trip).** Writing any message of 12..65535 bytes (12 = a bare DNS header; the
property quantifies over 13..65535, the header-only message is covered since the repair of F18) and reading
it back returns it unchanged, however the stream is chunked, and leaves
exactly the bytes that followed it. -/
theorem roundtrip (m w rest : Bytes) (cs : Stream) (h12 : 12 ≤ m.length)
    (hw : Gen.writeRawMsgToTCP m = some w) (hcs : cs.flatten = w ++ rest) :
    ∃ cs', Gen.readRawMsgFromTCP cs = .ok (m, cs') ∧ cs'.flatten = rest := by
  rw [Refine.C16.writeRawMsgToTCP_eq] at hw
  obtain ⟨hmax, rfl⟩ := frame_eq_some.mp hw
  exact Refine.C16.readRawMsgFromTCP_eq cs ▸ readRaw_frame h12 hmax hcs

/-- **C16 (all three writers agree).** The server-side packer `pool.PackTCPBuffer` (used by `WriteMsgToTCP`,
`ServeTCP` and the DoQ server), the raw writer and the client-side framer build byte-identical frames
from the same packed message, and refuse the same messages. -/
theorem all_writers_same_frame (w : Bytes) :
    Gen.packTCPBuffer w = Gen.writeRawMsgToTCP w ∧ Gen.packTCPBuffer w = Gen.copyMsgWithLenHdr w := by
  rw [Refine.C16.packTCPBuffer_eq, Refine.C16.writeRawMsgToTCP_eq, Refine.C16.copyMsgWithLenHdr_eq]
  exact ⟨rfl, rfl⟩

/-- **C16 (size limit).** Messages longer than 65535 bytes are refused and
nothing is handed to `Write`; all others produce exactly one buffer of
`len + 2` bytes. -/
theorem oversize_refused (m : Bytes) :
    (65535 < m.length → Gen.writeRawMsgToTCP m = none ∧ Gen.copyMsgWithLenHdr m = none) ∧
    (m.length ≤ 65535 → ∃ w, Gen.writeRawMsgToTCP m = some w ∧ w.length = m.length + 2) := by
  rw [Refine.C16.copyMsgWithLenHdr_eq, Refine.C16.writeRawMsgToTCP_eq]
  exact ⟨fun h => by simp [frame, h], fun h => ⟨_, frame_eq_some.mpr ⟨h, rfl⟩, by simp [hdr]⟩⟩

/-- **C16 (exact size, no other buffer).** Whatever the input stream, a
successful read returns a buffer of exactly the announced length (at least
12, a bare DNS header), the stream started with that header and that body, and the remainder is
untouched. -/
theorem exact_size (cs cs' : Stream) (b : Bytes) (h : Gen.readRawMsgFromTCP cs = .ok (b, cs')) :
    ∃ hd, hd.length = 2 ∧ b.length = announced hd ∧ 12 ≤ b.length ∧
      cs.flatten = hd ++ b ++ cs'.flatten :=
  readRaw_ok (Refine.C16.readRawMsgFromTCP_eq cs ▸ h)

/-- **C16 (garbage is an error).** A header announcing less than 12 bytes (less than a DNS header), a
stream shorter than a header, or a stream that ends before the announced
length all yield an error - in the model nothing else can happen (the
functions are total: no panic, no buffer of another size). -/
theorem small_or_short_errors (cs : Stream) :
    (cs.flatten.length < 2 → ∃ e, Gen.readRawMsgFromTCP cs = .error e) ∧
    (∀ hd rest, cs.flatten = hd ++ rest → hd.length = 2 →
      (announced hd < 12 → Gen.readRawMsgFromTCP cs = .error .tooSmall) ∧
      (rest.length < announced hd → ∃ e, Gen.readRawMsgFromTCP cs = .error e)) := by
  rw [Refine.C16.readRawMsgFromTCP_eq]
  refine ⟨readRaw_short, fun hd rest hcs hl => ?_⟩
  obtain ⟨c1, h1, h⟩ := readRaw_first_two hcs hl
  rw [h]
  refine ⟨fun hs => if_pos hs, fun hshort => ?_⟩
  split
  · exact ⟨_, rfl⟩
  · exact readFull_short (h1 ▸ hshort)

/-- The frames of `ms` followed by `tail` decode to `ms` followed by whatever `tail` decodes to. `ht` is the assumption
about the tail: on every chunking of `tail`, with any fuel of at least one, the decoder answers `r` (messages and final
error). The conclusion puts `ms` in front of the messages of `r` and keeps its error. -/
theorem decodeAll_frames {ms : List Bytes} {tail : Bytes} {r : List Bytes × Option ReadErr}
    (hr : ∀ m ∈ ms, 12 ≤ m.length ∧ m.length ≤ 65535)
    (ht : ∀ (c : Stream) fuel, c.flatten = tail → decodeAll (fuel + 1) c = r)
    {cs : Stream} (hcs : cs.flatten = enc ms ++ tail) {fuel : Nat} (hf : ms.length < fuel) :
    decodeAll fuel cs = (ms ++ r.1, r.2) := by
  induction ms generalizing cs fuel with
  | nil =>
    obtain ⟨f, rfl⟩ := Nat.exists_eq_add_one.mpr (Nat.zero_lt_of_lt hf)
    exact ht cs f hcs
  | cons m tl ih =>
    obtain ⟨f, rfl⟩ := Nat.exists_eq_add_one.mpr (Nat.zero_lt_of_lt hf)
    have hm := hr m List.mem_cons_self
    have hcs' : cs.flatten = hdr m.length ++ m ++ (enc tl ++ tail) := by simp [hcs, enc]
    obtain ⟨cs', h1, h2⟩ := readRaw_frame hm.1 hm.2 hcs'
    have hne : cs.flatten.isEmpty = false := by simp [hcs', hdr]
    simp only [decodeAll, hne, h1, ih (fun x hx => hr x (List.mem_cons_of_mem _ hx)) h2 (Nat.lt_of_succ_lt_succ hf)]
    rfl

/-- **C16 (sequences of frames).** Any number of in-range messages written
back to back decode to the same list, for every chunking of the byte stream
(so concurrently written replies, each handed to one `Write`, arrive as
intact frames in some order). -/
theorem frames_decode (ms : List Bytes) (hr : ∀ m ∈ ms, 13 ≤ m.length ∧ m.length ≤ 65535) :
    ∀ (cs : Stream), cs.flatten = (ms.map (fun m => hdr m.length ++ m)).flatten →
      ∀ fuel, ms.length < fuel → decodeAll fuel cs = (ms, none) := by
  intro cs hcs fuel hf
  have ht (c : Stream) (f : Nat) (hc : c.flatten = []) : decodeAll (f + 1) c = ([], none) := by simp [decodeAll, hc]
  -- `enc ms` is by definition the byte list `hcs` speaks of
  simpa using decodeAll_frames (fun m hm => (hr m hm).imp_left Nat.le_of_succ_le) ht
    (show cs.flatten = enc ms ++ [] from (List.append_nil _).symm ▸ hcs) hf

/-- **C16 (server writer round trip).** What `pool.PackTCPBuffer` produces for a packed message of
13..65535 bytes is read back unchanged by `ReadRawMsgFromTCP` under every chunking, leaving exactly
what followed; a longer message is refused (nothing is produced). -/
theorem packTCP_roundtrip (m f rest : Bytes) (cs : Stream) (h12 : 12 ≤ m.length)
    (hf : Gen.packTCPBuffer m = some f) (hcs : cs.flatten = f ++ rest) :
    ∃ cs', Gen.readRawMsgFromTCP cs = .ok (m, cs') ∧ cs'.flatten = rest :=
  roundtrip m f rest cs h12 ((all_writers_same_frame m).1 ▸ hf) hcs

theorem packTCP_oversize_refused (m : Bytes) (h : 65535 < m.length) : Gen.packTCPBuffer m = none := by
  rw [Refine.C16.packTCPBuffer_eq, frame, if_pos h]

/-- The datagram packer hands out the packed message itself (no header, no truncation, any length). -/
theorem packBuffer_exact (w : Bytes) : Gen.packBuffer w = w := by
  unfold Gen.packBuffer
  simp [Go.make, Go.copyAt]

def msg13 : Bytes := [1, 2, 3, 4, 5, 6, 7, 8, 9, 10, 11, 12, 13]

/-! Non-vacuity: `msg13` framed, split mid-header and mid-body. -/
example : Gen.packTCPBuffer msg13 = some (0 :: 13 :: msg13) := by decide
example : Gen.packBuffer msg13 = msg13 := by decide
example : Gen.writeRawMsgToTCP msg13 = some (0 :: 13 :: msg13) := by decide
example : Gen.readRawMsgFromTCP [[0], [13, 1, 2, 3], [], [4, 5, 6, 7, 8, 9, 10, 11, 12, 13, 99]] = .ok (msg13, [[99]]) := by rfl
example : Gen.readRawMsgFromTCP [[0, 11], msg13] = .error .tooSmall := by rfl
/-- a frame announcing exactly a DNS header (12 bytes) is a message, not an error (F18) -/
example : Gen.readRawMsgFromTCP [[0, 12], msg13] = .ok (msg13.take 12, [msg13.drop 12]) := by rfl
example : Gen.readRawMsgFromTCP [[0, 14], msg13] = .error .unexpectedEOF := by rfl
example : Gen.readRawMsgFromTCP [] = .error .eof := by rfl

/-! ## The connection loop of `ServeTCP` under read deadlines (`Model.C16.serve`)

Wherever the deadlines fall, a loop that gives the connection up at the first failed read hands the handler a prefix of
the messages the client framed; a loop that starts a new read after a deadline error can hand over bytes from inside a
message. -/

theorem serve_error {resume : Bool} {fuel : Nat} {cs : Stream} {rest : List Stream} {e : ReadErr}
    (h : readRaw cs = .error e) (hstop : resume = false ∨ rest = []) : serve resume (fuel + 1) (cs :: rest) = [] := by
  have hgo : (resume && !rest.isEmpty) = false := by rcases hstop with rfl | rfl <;> simp
  cases e <;> simp [serve, h, hgo]

/-- A loop that does not go on after a failed read - it gives the connection up (`resume = false`) or nothing follows
(`rest = []`) - is the frame decoder on its first segment. -/
theorem serve_eq_decodeAll {resume : Bool} {rest : List Stream} (hstop : resume = false ∨ rest = [])
    (fuel : Nat) (cs : Stream) : serve resume fuel (cs :: rest) = (decodeAll fuel cs).1 := by
  fun_induction decodeAll fuel cs with
  | case1 c => rfl   -- no fuel
  | case2 fuel c hempty =>
    -- `hempty`: the segment is exhausted; the decoder stops, the loop's read fails
    obtain ⟨e, he⟩ := readRaw_short (cs := c) (by rw [List.isEmpty_iff.mp hempty]; decide)
    exact serve_error he hstop
  | case3 fuel c _ e h => exact serve_error h hstop   -- `h : readRaw c = .error e`
  | case4 fuel c _ m c' h ms e hrec ih =>
    -- `h : readRaw c = .ok (m, c')`, `hrec : decodeAll fuel c' = (ms, e)`: both hand out `m` and go on with `c'`
    simp [serve, h, ih, hrec]

theorem enc_cons (m : Bytes) (ms : List Bytes) : enc (m :: ms) = hdr m.length ++ (m ++ enc ms) := by simp [enc]

/-- What `readRaw` returns was framed on the stream (`readRaw_ok`): since a header determines the length of its
message, it is the next message the client framed. No lower bound on the messages is needed: a message of less than
12 bytes ends the loop. -/
theorem serve_prefix (fuel : Nat) {ms : List Bytes} (cs : Stream) (rest : List Stream) {t : Bytes}
    (hr : ∀ m ∈ ms, m.length ≤ 65535) (h : cs.flatten ++ t = enc ms) :
    ∃ k, serve false fuel (cs :: rest) = ms.take k := by
  induction fuel generalizing ms cs with
  | zero => exact ⟨0, rfl⟩
  | succ f ih =>
    cases hrd : readRaw cs with
    | error e => exact ⟨0, serve_error hrd (.inl rfl)⟩
    | ok p =>
      obtain ⟨b, cs'⟩ := p
      obtain ⟨hd, hl, hb, -, hf⟩ := readRaw_ok hrd
      rw [hf] at h
      cases ms with
      | nil =>
        -- nothing was framed, yet the stream starts with the two bytes of a header
        have hne : hd ≠ [] := fun e => by rw [e] at hl; cases hl
        simp [enc, hne] at h
      | cons m tl =>
        simp only [enc_cons, List.append_assoc] at h
        obtain ⟨rfl, h1⟩ := List.append_inj h (by simp [hl, hdr])
        rw [announced_hdr (hr m List.mem_cons_self)] at hb
        obtain ⟨rfl, h2⟩ := List.append_inj h1 hb
        obtain ⟨k, hk⟩ := ih cs' (fun x hx => hr x (List.mem_cons_of_mem _ hx)) h2
        exact ⟨k + 1, by simp [serve, hrd, hk]⟩

/-- **C16 (the server handles only what was framed).** The client sends the frames of `ms` (or any prefix of that
byte stream: `t` is what it has not sent); the bytes arrive in any chunking and read deadlines fire wherever the
environment likes (`cs :: rest` is any list of segments). A loop that gives the connection up on a failed read hands
to the handler a prefix of `ms`: never bytes from inside a message, never a message twice, nothing out of order. -/
theorem serve_handles_prefix (ms : List Bytes) (hr : ∀ m ∈ ms, 13 ≤ m.length ∧ m.length ≤ 65535) :
    ∀ (fuel : Nat) (cs : Stream) (rest : List Stream) (t : Bytes), cs.flatten ++ t = enc ms →
      ∃ k, serve false fuel (cs :: rest) = ms.take k :=
  fun fuel cs rest _ => serve_prefix fuel cs rest fun m hm => (hr m hm).2

/-- The same loop with whatever follows the first failed read: it is never looked at. -/
theorem serve_false_ignores_rest (fuel : Nat) (cs : Stream) (rest rest' : List Stream) :
    serve false fuel (cs :: rest) = serve false fuel (cs :: rest') := by
  rw [serve_eq_decodeAll (.inl rfl), serve_eq_decodeAll (.inl rfl)]

/-- **C16 (chunking alone loses nothing).** When no deadline fires, every frame is handled, in order, however the
stream is chunked (whatever the loop would do on a deadline). -/
theorem serve_all_without_deadline (b : Bool) (ms : List Bytes) (hr : ∀ m ∈ ms, 13 ≤ m.length ∧ m.length ≤ 65535) :
    ∀ (cs : Stream), cs.flatten = enc ms → ∀ fuel, ms.length < fuel → serve b fuel [cs] = ms :=
  fun cs hcs fuel hf => by rw [serve_eq_decodeAll (.inr rfl), frames_decode ms hr cs hcs fuel hf]

/-- What the connection loop of the source does after a failed read, as regenerated (T2). -/
def srcResumes : Bool := Gen.Facts.c16ReadErrEndsConn != some true

theorem srcResumes_false : srcResumes = false := by decide

/-- `serve_handles_prefix` for the loop of the source, as regenerated. -/
theorem serve_handles_prefix_src (ms : List Bytes) (hr : ∀ m ∈ ms, 13 ≤ m.length ∧ m.length ≤ 65535)
    (fuel : Nat) (segs : List Stream) (t : Bytes) (h : (segs.map List.flatten).flatten ++ t = enc ms) :
    ∃ k, serve srcResumes fuel segs = ms.take k := by
  rw [srcResumes_false]
  cases segs with
  | nil => exact ⟨0, by cases fuel <;> simp [serve]⟩
  | cons cs rest =>
    simp only [List.map_cons, List.flatten_cons, List.append_assoc] at h
    exact serve_handles_prefix ms hr fuel cs rest _ h

/-- **Witness: resuming after a deadline is wrong.** One 28-byte message whose last 15 bytes happen to be a framed
13-byte message, delivered in two pieces with a deadline firing between them. The loop that starts a new read after
the deadline error hands those 13 bytes from inside the message to the handler; the loop of the source hands over
nothing. -/
def outer28 : Bytes := List.replicate 13 0xAA ++ (0 :: 13 :: msg13)
def cutSegs : List Stream := [[0 :: 28 :: List.replicate 13 0xAA], [0 :: 13 :: msg13]]

theorem resume_after_deadline_is_wrong :
    (cutSegs.map List.flatten).flatten = enc [outer28] ∧
    serve true 3 cutSegs = [msg13] ∧ msg13 ∉ [outer28] ∧ serve false 3 cutSegs = [] := by decide

/-! ### DoQ: the reply of a slow handler / to a slowly draining client

A stream deadline that bounds reads only lets the whole reply frame onto the stream, however late the handler returns
and however slowly the client's flow control opens; one that also bounds the write cuts the frame. -/

theorem credit_none (t0 : Nat) (gs : Grants) : credit none t0 gs = (gs.map (·.2)).sum := by
  have h : gs.filter (usable none t0) = gs := List.filter_eq_self.mpr fun _ _ => rfl
  simp [credit, h]

/-- **C16 on a DoQ stream, write direction.** If the deadline of the stream bounds reads only, the client finds
exactly the frame of the reply on the stream: whatever the limit is, however long the handler took and in whatever
portions (and however late) the client's flow control lets the bytes through, provided it lets them through at all. -/
theorem doq_reply_intact (limit tHandler : Nat) (gs : Grants) (reply : Bytes) (hmax : reply.length ≤ 65535)
    (hc : reply.length + 2 ≤ (gs.map (·.2)).sum) :
    doqStream false limit tHandler gs reply = hdr reply.length ++ reply := by
  simp only [doqStream, frame_eq_some.mpr ⟨hmax, rfl⟩, doqWrite, credit_none, Bool.false_eq_true, if_false]
  exact List.take_of_length_le (by rw [List.length_append, Nat.add_comm]; exact hc)

/-- ... and any chunking of what is on the stream reads back as that one reply with nothing left over. -/
theorem doq_reply_reads_back (limit tHandler : Nat) (gs : Grants) (reply : Bytes) (h13 : 13 ≤ reply.length)
    (hmax : reply.length ≤ 65535) (hc : reply.length + 2 ≤ (gs.map (·.2)).sum) (cs : Stream)
    (hcs : cs.flatten = doqStream false limit tHandler gs reply) :
    ∃ cs', readRaw cs = .ok (reply, cs') ∧ cs'.flatten = [] := by
  rw [doq_reply_intact limit tHandler gs reply hmax hc] at hcs
  exact readRaw_frame (by omega) hmax (by simpa using hcs)

/-- Does the stream deadline of the source bound writes, as regenerated (T2)? -/
def srcDoqWriteBounded : Bool := Gen.Facts.c16DoqStreamDeadlineReadOnly != some true

theorem srcDoqWriteBounded_false : srcDoqWriteBounded = false := by decide

/-- `doq_reply_reads_back` for `ServeDoQ` of the source, as regenerated. -/
theorem doq_reply_reads_back_src (limit tHandler : Nat) (gs : Grants) (reply : Bytes) (h13 : 13 ≤ reply.length)
    (hmax : reply.length ≤ 65535) (hc : reply.length + 2 ≤ (gs.map (·.2)).sum) (cs : Stream)
    (hcs : cs.flatten = doqStream srcDoqWriteBounded limit tHandler gs reply) :
    ∃ cs', readRaw cs = .ok (reply, cs') ∧ cs'.flatten = [] := by
  rw [srcDoqWriteBounded_false] at hcs
  exact doq_reply_reads_back limit tHandler gs reply h13 hmax hc cs hcs

/-- **Witness: a stream deadline that also bounds the write is wrong.** Limit 2000 ms. (1) The handler returns after
2300 ms: nothing but FIN is on the stream. (2) The handler is quick, the client lets 4 bytes through and the rest
from 2500 ms on: the stream holds a header announcing 13 bytes and 2 of them. Neither reads back as a message; with
a read-only deadline both streams hold the whole frame. -/
theorem write_deadline_cuts_reply :
    doqStream true 2000 2300 [(0, 4096)] msg13 = [] ∧
    doqStream true 2000 0 [(0, 4), (2500, 4096)] msg13 = [0, 13, 1, 2] ∧
    (readRaw [doqStream true 2000 2300 [(0, 4096)] msg13]).toBool = false ∧
    (readRaw [doqStream true 2000 0 [(0, 4), (2500, 4096)] msg13]).toBool = false ∧
    doqStream false 2000 2300 [(0, 4096)] msg13 = 0 :: 13 :: msg13 ∧
    doqStream false 2000 0 [(0, 4), (2500, 4096)] msg13 = 0 :: 13 :: msg13 := by decide

/-- **C16 (a short frame between valid frames).** A reader that decodes frame after frame and stops at the first
failed read (the read loop of a pipelined upstream connection, `TraditionalDnsConn.readLoop`) hands out exactly the
frames written before a frame announcing `l < 12` bytes and then fails with `tooSmall`, whatever follows the short
header (its body, further valid frames) and however the stream is chunked: nothing behind the short header is ever
cut into a message. -/
theorem frames_then_small (ms : List Bytes) (hr : ∀ m ∈ ms, 13 ≤ m.length ∧ m.length ≤ 65535)
    (l : Nat) (hl : l < 12) (rest : Bytes) :
    ∀ (cs : Stream), cs.flatten = (ms.map (fun m => hdr m.length ++ m)).flatten ++ (hdr l ++ rest) →
      ∀ fuel, ms.length < fuel → decodeAll fuel cs = (ms, some .tooSmall) := by
  intro cs hcs fuel hf
  have ht (c : Stream) (f : Nat) (hc : c.flatten = hdr l ++ rest) : decodeAll (f + 1) c = ([], some .tooSmall) := by
    obtain ⟨c1, -, h⟩ := readRaw_first_two hc rfl
    rw [announced_hdr (by omega), if_pos hl] at h
    simp [decodeAll, hc, h, hdr]
  -- `enc ms` is by definition the byte list `hcs` speaks of
  simpa using decodeAll_frames (fun m hm => (hr m hm).imp_left Nat.le_of_succ_le) ht
    (show cs.flatten = enc ms ++ (hdr l ++ rest) from hcs) hf

/-- A read loop that treats `tooSmall` like a runt datagram and reads on behind the two header bytes (the body of
the short frame is still on the stream). -/
def decodeSkipping : Nat → Stream → List Bytes
  | 0, _ => []
  | fuel + 1, c =>
    match readFull c 2 with
    | .error _ => []
    | .ok (h, c') =>
      if announced h < 12 then decodeSkipping fuel c' else
      match readFull c' (announced h) with
      | .error _ => []
      | .ok (m, c'') => m :: decodeSkipping fuel c''

/-- Witness: such a loop cuts a "message" out of the body of the short frame and the header of the next frame - bytes
the peer never framed as one message (here the only message sent is `msg13`). -/
theorem skipping_small_is_wrong :
    decodeSkipping 4 [[0, 6, 0, 13, 0, 0, 0x81, 0x80] ++ (0 :: 13 :: msg13)]
      = [[0, 0, 0x81, 0x80, 0, 13, 1, 2, 3, 4, 5, 6, 7]] ∧
    decodeAll 4 [[0, 6, 0, 13, 0, 0, 0x81, 0x80] ++ (0 :: 13 :: msg13)] = ([], some .tooSmall) := by decide

theorem facts_guard :
    Gen.Facts.c16ReadErrEndsConn = some true ∧ Gen.Facts.c16DoqStreamDeadlineReadOnly = some true ∧
    Gen.Facts.c16ClientReadErrEndsConn = some true := by decide

end Props.C16

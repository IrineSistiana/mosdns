import MosdnsVerif.Refine.C17
import MosdnsVerif.Props.C17Frame   -- not used below: puts the frame theorems into the build target `Props.C17`
import MosdnsVerif.Gen.Facts

/-!
# C17 — truncated UDP replies are retried over TCP

Theorems about `Gen.msgTruncated` and `Gen.udpWithFallbackExchange`, both
regenerated from `pkg/upstream` on every run. `udp` and `tcp` are arbitrary
functions: every UDP reply (any header flags, any size) and every TCP-side
behaviour (answer, refusal, failure) is covered.

"To the same server": how the UDP half and the TCP half of the upstream dial
is read from the `udp` case of `NewUpstream` (T2 facts); the routing theorems
are about those regenerated values, for every configuration (any `Opt.Socks5`,
any address).
-/
namespace Props.C17
open Model.C17

/-- The code's test is the TC bit, for every reply with a flags byte. -/
theorem tc_bit (b : Bytes) : Gen.msgTruncated b = tcBit b := Refine.C17.msgTruncated_eq b

/-- TC set: the same query goes to TCP and the TCP outcome (reply or error)
is what the caller gets. -/
theorem truncated_goes_to_tcp (udp tcp : Bytes → Except Nat Bytes) (q r : Bytes)
    (hu : udp q = .ok r) (htc : tcBit r = true) :
    Gen.udpWithFallbackExchange udp tcp q = (tcp q, true) := by
  rw [Refine.C17.exchange_eq]; simp [exchange, hu, htc]

/-- TC clear: the UDP reply is returned as it is and TCP is not used. -/
theorem untruncated_returned (udp tcp : Bytes → Except Nat Bytes) (q r : Bytes)
    (hu : udp q = .ok r) (htc : tcBit r = false) :
    Gen.udpWithFallbackExchange udp tcp q = (.ok r, false) := by
  rw [Refine.C17.exchange_eq]; simp [exchange, hu, htc]

/-- A UDP failure is reported; TCP is not used. -/
theorem udp_error_reported (udp tcp : Bytes → Except Nat Bytes) (q : Bytes) (e : Nat)
    (hu : udp q = .error e) :
    Gen.udpWithFallbackExchange udp tcp q = (.error e, false) := by
  rw [Refine.C17.exchange_eq]; simp [exchange, hu]

/-- TCP is used exactly when the UDP exchange produced a truncated reply. -/
theorem tcp_used_iff (udp tcp : Bytes → Except Nat Bytes) (q : Bytes) :
    (Gen.udpWithFallbackExchange udp tcp q).2 = true ↔ ∃ r, udp q = .ok r ∧ tcBit r = true := by
  rw [Refine.C17.exchange_eq]
  unfold exchange
  cases h : udp q with
  | error e => simp
  | ok r => cases ht : tcBit r <;> simp [ht]

/-! ## The TCP retry goes to the same server -/

/-- How the two dial functions of the udp upstream connect, as read from the source. -/
def udpVia : DialVia := .ofFact Gen.Facts.c17UdpDialVia
def tcpVia : DialVia := .ofFact Gen.Facts.c17TcpDialVia

/-- The shapes the routing model was written from. -/
theorem facts_guard :
    Gen.Facts.c17UdpDialVia = some 0 ∧ Gen.Facts.c17TcpDialVia = some 0 ∧
    Gen.Facts.c17DialAddrShape = some true ∧ Gen.Facts.c17DialerIsNetDialer = some true ∧
    Gen.Facts.c17FallbackWiring = some true ∧ Gen.Facts.c17UdpSideReadsQueryOnly = some true ∧
    Gen.Facts.c17TcpConnIdleOnlyWhenNothingOwed = some true := by decide

/-- Whatever is configured (in particular whatever `Opt.Socks5` is), the TCP half
connects to the endpoint the UDP half sends to: the configured server. -/
theorem tcp_retry_same_server (c : DialCfg) :
    endpoint udpVia c = some c.server ∧ endpoint tcpVia c = endpoint udpVia c := by
  constructor <;> rfl

/-- On a network where every endpoint behaves in its own way: a truncated UDP reply of
the configured server makes the same query go to the TCP side *of that server*, and what
that server's TCP side does (reply or error) is the outcome. -/
theorem truncated_retry_reaches_same_server (c : DialCfg) (udpNet tcpNet : Nat → Bytes → Except Nat Bytes)
    (q r : Bytes) (hu : udpNet c.server q = .ok r) (htc : tcBit r = true) :
    exchangeRouted Gen.udpWithFallbackExchange udpVia tcpVia c udpNet tcpNet q
      = some (tcpNet c.server q, true, some c.server) := by
  obtain ⟨h1, h2⟩ := tcp_retry_same_server c
  simp only [exchangeRouted, h2, h1, truncated_goes_to_tcp (udpNet c.server) (tcpNet c.server) q r hu htc]
  rfl

/-- ... and a reply without TC is returned as it is with no TCP connection to any endpoint. -/
theorem untruncated_connects_nowhere (c : DialCfg) (udpNet tcpNet : Nat → Bytes → Except Nat Bytes)
    (q r : Bytes) (hu : udpNet c.server q = .ok r) (htc : tcBit r = false) :
    exchangeRouted Gen.udpWithFallbackExchange udpVia tcpVia c udpNet tcpNet q = some (.ok r, false, none) := by
  obtain ⟨h1, h2⟩ := tcp_retry_same_server c
  simp only [exchangeRouted, h2, h1, untruncated_returned (udpNet c.server) (tcpNet c.server) q r hu htc]
  rfl

/-- What the two theorems above exclude: a TCP half built by the shared `newTcpDialer`
helper connects elsewhere as soon as a proxy is configured. -/
theorem helper_would_redirect : ∃ c : DialCfg, endpoint .tcpHelper c ≠ endpoint .direct c :=
  ⟨⟨1, some 2⟩, by decide⟩

/-! ## The same query, whatever the UDP side went through -/

/-- Whether the UDP side only reads the caller's slice, as read from the source. -/
def readsOnly : Bool := Gen.Facts.c17UdpSideReadsQueryOnly == some true

theorem readsOnly_true : readsOnly = true := by decide

/-- The UDP side that only reads, in closed form: the outcome is the exchange of the first attempt whose write succeeds
(sent under that attempt's id, the caller's id put back on the reply); the buffer is the caller's query. -/
theorem udpSide_first_sent (srv : Bytes → Except Nat Bytes) (atts : List Attempt) (q : Bytes) :
    udpSide true srv atts q =
      ((match atts.find? (·.writeOk) with
          | none => .error 0
          | some a => (srv (setId a.hi a.lo q)).map (setId (idOf q).1 (idOf q).2)),
        q) := by
  induction atts with
  | nil => rfl
  | cons a rest ih =>
    unfold udpSide
    cases hw : a.writeOk
    · simpa [hw] using ih
    · simp only [List.find?_cons, hw, if_true]
      cases srv (setId a.hi a.lo q) <;> rfl

/-- A UDP side that only reads the query leaves the caller's buffer as it was, for
every sequence of failed and successful sends. -/
theorem udp_side_keeps_query (srv : Bytes → Except Nat Bytes) (atts : List Attempt) (q : Bytes) :
    (udpSide true srv atts q).2 = q := by
  rw [udpSide_first_sent]

theorem exchangeBuf_triple (srv tcp : Bytes → Except Nat Bytes) (atts : List Attempt) (q : Bytes) :
    exchangeBuf true srv tcp atts q =
      match exchange (fun b => (udpSide true srv atts b).1) tcp q with
      | (res, usedTcp) => (res, if usedTcp then some q else none, q) := by
  have hk := udp_side_keeps_query srv atts q
  unfold exchangeBuf exchange
  rcases h : udpSide true srv atts q with ⟨res, b⟩
  obtain rfl : b = q := by rw [h] at hk; exact hk
  cases res with
  | error e => simp [h]
  | ok r => cases ht : tcBit r <;> simp [h, ht]

/-- With the buffer as state the exchange is the stateless one over the UDP side's outcome:
the theorems above (about the regenerated `udpWithFallbackExchange`) apply to it. -/
theorem exchangeBuf_is_exchange (srv tcp : Bytes → Except Nat Bytes) (atts : List Attempt) (q : Bytes) :
    (exchangeBuf readsOnly srv tcp atts q).1 =
      (Gen.udpWithFallbackExchange (fun b => (udpSide true srv atts b).1) tcp q).1 := by
  rw [readsOnly_true, exchangeBuf_triple, Refine.C17.exchange_eq]

/-- After any number of failed sends (any ids the dead sockets assigned), a truncated reply
makes exactly the caller's query go to TCP, the TCP outcome is the caller's, and the
caller's buffer is what it was. -/
theorem same_query_after_failed_sends (srv tcp : Bytes → Except Nat Bytes) (atts : List Attempt) (q r : Bytes)
    (hu : (udpSide readsOnly srv atts q).1 = .ok r) (htc : tcBit r = true) :
    exchangeBuf readsOnly srv tcp atts q = (tcp q, some q, q) := by
  rw [readsOnly_true] at hu ⊢
  simp [exchangeBuf_triple, exchange, hu, htc]

/-- ... and a reply without TC comes back with no TCP frame and the buffer unchanged. -/
theorem untruncated_after_failed_sends (srv tcp : Bytes → Except Nat Bytes) (atts : List Attempt) (q r : Bytes)
    (hu : (udpSide readsOnly srv atts q).1 = .ok r) (htc : tcBit r = false) :
    exchangeBuf readsOnly srv tcp atts q = (.ok r, none, q) := by
  rw [readsOnly_true] at hu ⊢
  simp [exchangeBuf_triple, exchange, hu, htc]

/-- A reply the UDP side returns carries the id of the caller's query. -/
theorem udp_reply_has_caller_id (srv : Bytes → Except Nat Bytes) (atts : List Attempt) (q r : Bytes)
    (hu : (udpSide true srv atts q).1 = .ok r) : idOf r = idOf q := by
  rw [udpSide_first_sent] at hu
  split at hu
  · cases hu
  · next a _ =>
    cases hs : srv (setId a.hi a.lo q) with
    | error e => rw [hs] at hu; cases hu
    | ok r' =>
      rw [hs] at hu
      cases hu
      show idOf (setId (idOf q).1 (idOf q).2 r') = idOf q
      rfl

/-- What the guard on `c17UdpSideReadsQueryOnly` excludes: with the id patched in place and
not undone after a failed write, one failed send is enough for a different frame to reach TCP. -/
theorem in_place_patch_breaks_same_query :
    ∃ (atts : List Attempt) (q : Bytes),
      (exchangeBuf false (fun w => .ok (w.take 2 ++ [0x82, 0])) (fun b => .ok b) atts q).2.1 ≠ some q :=
  ⟨[⟨0, 3, false⟩, ⟨0, 0, true⟩], [0xbe, 0xef, 1, 0], by decide⟩

example : exchangeBuf readsOnly (fun w => .ok (w.take 2 ++ [0x82, 0])) (fun b => .ok b)
    [⟨0, 3, false⟩, ⟨0, 0, true⟩] [0xbe, 0xef, 1, 0] = (.ok [0xbe, 0xef, 1, 0], some [0xbe, 0xef, 1, 0], [0xbe, 0xef, 1, 0]) := by rfl

example : exchangeRouted Gen.udpWithFallbackExchange udpVia tcpVia ⟨1, some 2⟩
    (fun e _ => if e == 1 then .ok [0, 1, 0x82, 0] else .error 7) (fun e q => if e == 1 then .ok (9 :: q) else .error 8) [7]
    = some (.ok [9, 7], true, some 1) := by rfl
example : tcBit [0, 1, 0x82, 0] = true ∧ tcBit [0, 1, 0x84, 0] = false := by decide
example : Gen.udpWithFallbackExchange (fun _ => .ok [0, 1, 0x82, 0]) (fun q => .ok (9 :: q)) [7] = (.ok [9, 7], true) := by rfl
example : Gen.udpWithFallbackExchange (fun _ => .ok [0, 1, 0x86, 0]) (fun _ => .error 5) [7] = (.error 5, true) := by rfl

/-! ## The TCP reply is the reply to the caller's query (connection reuse) -/

/-- What `reusableConn.exchange` does with the connection when the caller's context
ends, read from the source: `false` = the connection stays out of the idle pool
until the outstanding reply has been read. -/
def idleOnGiveUp : Bool := Gen.Facts.c17TcpConnIdleOnlyWhenNothingOwed != some true

theorem idleOnGiveUp_false : idleOnGiveUp = false := by decide

theorem fresh_ok : TConn.fresh.ok := by simp [TConn.ok, TConn.fresh]

theorem ok_owed_cons {c : TConn} (h : c.ok) {o : Bytes} {rest : List Bytes} (ho : c.owed = o :: rest) :
    rest = [] ∧ c.idle = false ∧ ∀ w, c.waiter = some w → w = o := by
  obtain ⟨hidle, hwait, hlen⟩ := h
  rw [ho] at hidle hwait hlen
  refine ⟨by simpa using hlen, ?_, fun w hw => ?_⟩
  · cases hi : c.idle with
    | false => rfl
    | true => cases (hidle hi).1
  · cases hwait w hw; rfl

/-- One event keeps the invariant, and a reply handed to a caller answers that caller's query. -/
theorem cstep_ok (c : TConn) (h : c.ok) (e : CEv) :
    (cstep false c e).1.ok ∧ ∀ w o, (cstep false c e).2 = some (w, o) → o = w := by
  unfold cstep
  have ⟨hidle, _, hlen⟩ := h
  cases e with
  | take q =>
    cases hi : c.idle with
    | false => exact ⟨h, nofun⟩
    | true => exact ⟨by simp [TConn.ok, (hidle hi).1], nofun⟩
  | giveUp =>
    cases hw : c.waiter with
    | none => exact ⟨h, nofun⟩
    | some w => exact ⟨⟨nofun, nofun, hlen⟩, nofun⟩
  | reply =>
    cases ho : c.owed with
    | nil => exact ⟨h, nofun⟩
    | cons o rest =>
      obtain ⟨rfl, hi, hw⟩ := ok_owed_cons h ho
      cases hc : c.waiter with
      | some w => cases hw w hc; simp [TConn.ok]
      | none => simp [TConn.ok, hi]

/-- With the give-up behaviour read from the source: over any sequence of takes, give-ups
(callers whose context ended with the reply outstanding) and replies on a connection,
every TCP reply handed to a caller is the reply to that caller's own query - never the
late reply to an earlier query. -/
theorem tcp_reply_is_the_callers (evs : List CEv) (c : TConn) (h : c.ok) :
    ∀ d ∈ crun idleOnGiveUp c evs, d.2 = d.1 := by
  rw [idleOnGiveUp_false]
  induction evs generalizing c with
  | nil => nofun
  | cons e es ih =>
    obtain ⟨hk, hdl⟩ := cstep_ok c h e
    intro d hd
    rcases List.mem_append.mp hd with h0 | h0
    · exact hdl d.1 d.2 (Option.mem_toList.mp h0)
    · exact ih _ hk d h0

/-- What the theorem above excludes: a connection put back into the idle pool when its
caller gives up hands the late reply to the next caller. -/
theorem idle_on_give_up_hands_over_late_reply :
    crun true TConn.fresh [.take [1], .giveUp, .take [2], .reply] = [([2], [1])] := by decide

end Props.C17

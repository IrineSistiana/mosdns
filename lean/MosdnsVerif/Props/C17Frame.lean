import MosdnsVerif.Refine.C16
import MosdnsVerif.Refine.C17
import MosdnsVerif.Lemmas.Stream

/-!
# C17, the size of the TCP reply

"The TCP reply is what the caller gets", over replies of *any size*: the TCP
half of the udp upstream reads the reply with `dnsutils.ReadRawMsgFromTCP`
(regenerated as `Gen.readRawMsgFromTCP`, proved equal to `Model.C16.readRaw`
in Refine/C16.lean). A TCP frame announces its size in 16 bits, so a server
may answer with any message of up to 65535 bytes.
-/

namespace Props.C17
open Model.C16 Model.C17 Go Lemmas.Stream

/-- **C17 (any size).** The regenerated frame reader returns a framed message of
any size 12..65535 (12 = a bare DNS header, accepted since the repair of F18) whole, however the stream is chunked. -/
theorem tcp_frame_read_whole (m rest : Bytes) (cs : Stream) (h12 : 12 ≤ m.length) (hmax : m.length ≤ 65535)
    (hcs : cs.flatten = hdr m.length ++ m ++ rest) :
    ∃ cs', Gen.readRawMsgFromTCP cs = .ok (m, cs') ∧ cs'.flatten = rest :=
  Refine.C16.readRawMsgFromTCP_eq cs ▸ readRaw_frame h12 hmax hcs

/-- The two largest sizes a 16-bit length can announce are read like any other. -/
theorem tcp_frame_max_sizes (m rest : Bytes) (cs : Stream) (hm : m.length = 65534 ∨ m.length = 65535)
    (hcs : cs.flatten = hdr m.length ++ m ++ rest) :
    ∃ cs', Gen.readRawMsgFromTCP cs = .ok (m, cs') :=
  (tcp_frame_read_whole m rest cs (by omega) (by omega) hcs).imp fun _ h => h.1

/-- The TCP half as a behaviour for `udpWithFallbackExchange`: whatever the query,
the reply is what the regenerated frame reader finds on the connection's stream. -/
def tcpOver (cs : Stream) : Bytes → Except Nat Bytes := fun _ =>
  match Gen.readRawMsgFromTCP cs with
  | .ok (b, _) => .ok b
  | .error _ => .error 1   -- the code is arbitrary

/-- **C17 (TCP reply of any size).** The UDP reply has TC set and the server's TCP
reply `m` (12..65535 bytes: every DNS message a frame can carry, a bare header included) arrives framed on the connection in any chunking:
the caller gets exactly `m`, and TCP was used. -/
theorem truncated_gets_tcp_reply_of_any_size (udp : Bytes → Except Nat Bytes) (q r m rest : Bytes) (cs : Stream)
    (hu : udp q = .ok r) (htc : Model.C17.tcBit r = true)
    (h12 : 12 ≤ m.length) (hmax : m.length ≤ 65535) (hcs : cs.flatten = hdr m.length ++ m ++ rest) :
    Gen.udpWithFallbackExchange udp (tcpOver cs) q = (.ok m, true) := by
  rw [Refine.C17.exchange_eq]
  obtain ⟨cs', h, _⟩ := tcp_frame_read_whole m rest cs h12 hmax hcs
  simp [exchange, hu, htc, tcpOver, h]

/-- What the theorems above exclude: a reader that refuses a frame whose size
*including the length header* exceeds 65535. -/
def readRawHdrCounted (c : Stream) : Except ReadErr (Bytes × Stream) :=
  match readFull c 2 with
  | .error e => .error e
  | .ok (h, c) =>
    if announced h < 12 then .error .tooSmall
    else if announced h + 2 > 65535 then .error .tooSmall   -- which error is irrelevant to the witness
    else readFull c (announced h)

theorem hdr_counted_refuses_legal_reply (m rest : Bytes) (cs : Stream) (hm : m.length = 65534 ∨ m.length = 65535)
    (hcs : cs.flatten = hdr m.length ++ m ++ rest) :
    ∃ e, readRawHdrCounted cs = .error e := by
  obtain ⟨c1, h1, _⟩ := readFull_hdr hcs
  simp only [readRawHdrCounted, h1, announced_hdr (show m.length ≤ 65535 by omega)]
  rw [if_neg (by omega), if_pos (by omega)]
  exact ⟨_, rfl⟩

/-- What the reader did before the repair of F18: it refused a frame of exactly 12 bytes (a header-only reply,
e.g. FORMERR / REFUSED with no question), so the caller of a truncated query got an error instead of the TCP reply. -/
def readRawHeaderRefused (c : Stream) : Except ReadErr (Bytes × Stream) :=
  match readFull c 2 with
  | .error e => .error e
  | .ok (h, c) => if announced h ≤ 12 then .error .tooSmall else readFull c (announced h)

theorem header_only_reply_was_refused (m rest : Bytes) (cs : Stream) (hm : m.length = 12)
    (hcs : cs.flatten = hdr m.length ++ m ++ rest) :
    readRawHeaderRefused cs = .error .tooSmall ∧ ∃ cs', Gen.readRawMsgFromTCP cs = .ok (m, cs') := by
  constructor
  · obtain ⟨c1, h1, _⟩ := readFull_hdr hcs
    simp only [readRawHeaderRefused, h1, announced_hdr (show m.length ≤ 65535 by omega)]
    exact if_pos (by omega)
  · exact (tcp_frame_read_whole m rest cs (by omega) (by omega) hcs).imp fun _ h => h.1

end Props.C17

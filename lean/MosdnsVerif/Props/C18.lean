import MosdnsVerif.Refine.C18
import MosdnsVerif.Gen.Facts
import MosdnsVerif.Lemmas.List

/-!
# C18 — upstreams connect to exactly the address the user configured

`Gen.tryTrimIpv6Brackets` is regenerated from `pkg/upstream/utils.go`; the
per-scheme default ports are regenerated facts. `net.SplitHostPort` enters as a
function `split` satisfying `SplitContract` (its behaviour on the address
forms of the property's grammar; the correspondence checks the real library
and the executable model against the same contract), the port parser as an
arbitrary function. Strings are byte lists: in the examples the quoted text next to a
list of numbers is what its bytes spell.
-/
namespace Props.C18
open Model.C18

def NoSpecial (s : Bytes) : Prop := colon ∉ s ∧ lbr ∉ s ∧ rbr ∉ s
def NoBracket (s : Bytes) : Prop := lbr ∉ s ∧ rbr ∉ s

theorem NoSpecial.noColon {s : Bytes} (h : NoSpecial s) : colon ∉ s := h.1
theorem NoSpecial.noLbr {s : Bytes} (h : NoSpecial s) : lbr ∉ s := h.2.1
theorem NoSpecial.noRbr {s : Bytes} (h : NoSpecial s) : rbr ∉ s := h.2.2
theorem NoBracket.noLbr {s : Bytes} (h : NoBracket s) : lbr ∉ s := h.1

/-- Behaviour of `net.SplitHostPort` on the address forms of the grammar. -/
structure SplitContract (split : Bytes → Option (Bytes × Bytes)) : Prop where
  plain : ∀ h p, NoSpecial h → NoSpecial p → split (h ++ colon :: p) = some (h, p)
  bracketed : ∀ v p, NoBracket v → NoSpecial p → split (lbr :: v ++ rbr :: colon :: p) = some (v, p)
  noColon : ∀ s, colon ∉ s → split s = none
  bareV6 : ∀ s, NoBracket s → 2 ≤ s.count colon → split s = none
  bracketNoPort : ∀ v, NoBracket v → split (lbr :: v ++ [rbr]) = none

/-- The host and port `NewUpstream` dials: `parseDialAddr` applied to the
bracket-trimmed URL host (fact `hostIsTrimmedUrlHost`). -/
def target (split : Bytes → Option (Bytes × Bytes)) (parse : Bytes → Option UInt16)
    (urlHost dialAddr : Bytes) (defaultPort : UInt16) : Except Unit (Bytes × UInt16) :=
  parseDialAddr split parse (Gen.tryTrimIpv6Brackets urlHost) dialAddr defaultPort

/-- The default TLS server name: `tryRemovePort` of the trimmed URL host. -/
def serverName (split : Bytes → Option (Bytes × Bytes)) (urlHost : Bytes) : Bytes :=
  tryRemovePort split (Gen.tryTrimIpv6Brackets urlHost)

theorem hostIsTrimmed_guard : Gen.Facts.hostIsTrimmedUrlHost = some true := rfl
theorem ports_guard : Gen.Facts.portUdp = some 53 ∧ Gen.Facts.portTcp = some 53 ∧
    Gen.Facts.portTls = some 853 ∧ Gen.Facts.portHttps = some 443 ∧ Gen.Facts.portQuic = some 853 :=
  ⟨rfl, rfl, rfl, rfl, rfl⟩

theorem trimBrackets_brackets (v : Bytes) : trimBrackets (lbr :: v ++ [rbr]) = v := by
  have hlen : ¬ (lbr :: v ++ [rbr]).length < 2 := by simp
  rw [trimBrackets, if_neg hlen]
  simp [List.getD_eq_getElem?_getD]

theorem trimBrackets_of_ne (s : Bytes) (h : s.head? ≠ some lbr ∨ s.getLast? ≠ some rbr) : trimBrackets s = s := by
  unfold trimBrackets
  by_cases hl : s.length < 2
  · rw [if_pos hl]
  · have hhead : s.head? = some (s.getD 0 0) := by
      simp [List.head?_eq_getElem?, List.getD_eq_getElem?_getD, show 0 < s.length by omega]
    have hlast : s.getLast? = some (s.getD (s.length - 1) 0) := by
      simp [List.getLast?_eq_getElem?, List.getD_eq_getElem?_getD, show s.length - 1 < s.length by omega]
    rw [if_neg hl, if_neg]
    rintro ⟨e0, e1⟩
    rw [hhead, hlast, e0, e1] at h
    exact h.elim (· rfl) (· rfl)

theorem trimBrackets_noLbr (s : Bytes) (h : lbr ∉ s) : trimBrackets s = s :=
  trimBrackets_of_ne s (.inl fun e => h (List.mem_of_mem_head? e))

/-- **Bracket trimming.** `[h]` becomes exactly `h` (for every `h`, also the
empty one). -/
theorem trim_brackets (h : Bytes) : Gen.tryTrimIpv6Brackets (lbr :: h ++ [rbr]) = h := by
  rw [Refine.C18.tryTrimIpv6Brackets_eq, trimBrackets_brackets]

/-- ... and a string that does not start with `[` or does not end with `]` is returned unchanged. -/
theorem trim_identity (s : Bytes) (h : s.head? ≠ some lbr ∨ s.getLast? ≠ some rbr) :
    Gen.tryTrimIpv6Brackets s = s := by
  rw [Refine.C18.tryTrimIpv6Brackets_eq, trimBrackets_of_ne s h]

theorem trim_noLbr (s : Bytes) (h : lbr ∉ s) : Gen.tryTrimIpv6Brackets s = s := by
  rw [Refine.C18.tryTrimIpv6Brackets_eq, trimBrackets_noLbr s h]

theorem trim_bracketed_port (v p : Bytes) (hp : NoSpecial p) (hpne : p ≠ []) :
    Gen.tryTrimIpv6Brackets (lbr :: v ++ rbr :: colon :: p) = lbr :: v ++ rbr :: colon :: p := by
  refine trim_identity _ (.inr fun e => hp.noRbr ?_)
  rw [show lbr :: v ++ rbr :: colon :: p = (lbr :: v ++ [rbr, colon]) ++ p by simp, List.getLast?_append,
    List.getLast?_eq_some_getLast hpne, Option.some_or] at e
  exact Option.some.inj e ▸ List.getLast_mem hpne

theorem trim_plain_port (h p : Bytes) (hh : NoSpecial h) (hp : NoSpecial p) :
    Gen.tryTrimIpv6Brackets (h ++ colon :: p) = h ++ colon :: p :=
  trim_noLbr _ (by
    simp only [List.mem_append, List.mem_cons, not_or]
    exact ⟨hh.noLbr, by decide, hp.noLbr⟩)

-- `parse` is an explicit argument of the theorems that take it from this line; a lemma that binds `{parse}` itself
-- leaves it to the goal, as all do with `split`
variable {split : Bytes → Option (Bytes × Bytes)} (parse : Bytes → Option UInt16)

theorem pda_none {parse : Bytes → Option UInt16} {s : Bytes} (d : UInt16) (hs : split s = none) :
    parseDialAddr split parse s [] d = .ok (s, d) := by
  simp [parseDialAddr, trySplitHostPort, hs]

theorem pda_some {parse : Bytes → Option UInt16} {s h p : Bytes} {n : UInt16} (d : UInt16)
    (hs : split s = some (h, p)) (hn : parse p = some n) (hz : n ≠ 0) :
    parseDialAddr split parse s [] d = .ok (h, n) := by
  simp [parseDialAddr, trySplitHostPort, hs, hn, hz]

theorem pda_reject {parse : Bytes → Option UInt16} {s h p : Bytes} (d : UInt16)
    (hs : split s = some (h, p)) (hn : parse p = none) :
    parseDialAddr split parse s [] d = .error () := by
  simp [parseDialAddr, trySplitHostPort, hs, hn]

theorem target_dial_addr {parse : Bytes → Option UInt16} (u : Bytes) {a : Bytes} (d : UInt16) (ha : a ≠ []) :
    target split parse u a d = parseDialAddr split parse a [] d := by
  simp [target, parseDialAddr, List.length_pos_iff.mpr ha]

/-- **Hostname or IPv4 without port**: dials exactly that host on the scheme's default port. -/
theorem plain_no_port {parse : Bytes → Option UInt16} (C : SplitContract split) (d : UInt16) {h : Bytes}
    (hh : NoSpecial h) : target split parse h [] d = .ok (h, d) := by
  unfold target
  rw [trim_noLbr h hh.noLbr]
  exact pda_none d (C.noColon h hh.noColon)

/-- **Hostname or IPv4 with port** `h:p` where `p` parses to a non-zero `n`:
dials exactly host `h`, port `n`. If `p` does not parse (not a decimal number
or above 65535) the address is rejected, never altered. -/
theorem plain_with_port {parse : Bytes → Option UInt16} (C : SplitContract split) (d : UInt16) {h p : Bytes}
    (hh : NoSpecial h) (hp : NoSpecial p) :
    (∀ n, parse p = some n → n ≠ 0 → target split parse (h ++ colon :: p) [] d = .ok (h, n)) ∧
    (parse p = none → target split parse (h ++ colon :: p) [] d = .error ()) := by
  unfold target
  rw [trim_plain_port h p hh hp]
  exact ⟨fun n hn hz => pda_some d (C.plain h p hh hp) hn hz, pda_reject d (C.plain h p hh hp)⟩

/-- **Bracketed IPv6 without port** `[v]`: dials exactly `v` (all of it - the
defect fixed by 4eff6fb lost its last character) on the default port. -/
theorem bracketed_no_port (C : SplitContract split) (v : Bytes) (hv : NoBracket v) (h2 : 2 ≤ v.count colon) (d : UInt16) :
    target split parse (lbr :: v ++ [rbr]) [] d = .ok (v, d) := by
  unfold target
  rw [trim_brackets v]
  exact pda_none d (C.bareV6 v hv h2)

/-- **Bracketed IPv6 with port** `[v]:p`. -/
theorem bracketed_with_port (C : SplitContract split) (v p : Bytes) (hv : NoBracket v) (hp : NoSpecial p)
    (hpne : p ≠ []) (d n : UInt16) (hn : parse p = some n) (hz : n ≠ 0) :
    target split parse (lbr :: v ++ rbr :: colon :: p) [] d = .ok (v, n) := by
  unfold target
  rw [trim_bracketed_port v p hp hpne]
  exact pda_some d (C.bracketed v p hv hp) hn hz

/-- **Bare IPv6** (at least two colons, no brackets): dials exactly it on the default port. -/
theorem bare_v6 (C : SplitContract split) (v : Bytes) (hv : NoBracket v) (h2 : 2 ≤ v.count colon) (d : UInt16) :
    target split parse v [] d = .ok (v, d) := by
  unfold target
  rw [trim_noLbr v hv.noLbr]
  exact pda_none d (C.bareV6 v hv h2)

/-! **dial_addr overrides the URL host** (whatever the URL host `u` is), for the forms IP or host, bare IPv6,
IP:port / host:port, [IPv6]:port. -/

theorem dial_addr_plain_no_port {parse : Bytes → Option UInt16} (C : SplitContract split) (u : Bytes) (d : UInt16)
    {h : Bytes} (hne : h ≠ []) (hh : NoSpecial h) : target split parse u h d = .ok (h, d) := by
  rw [target_dial_addr u d hne]
  exact pda_none d (C.noColon h hh.noColon)

theorem dial_addr_bare_v6 {parse : Bytes → Option UInt16} (C : SplitContract split) (u : Bytes) (d : UInt16)
    {v : Bytes} (hv : NoBracket v) (h2 : 2 ≤ v.count colon) : target split parse u v d = .ok (v, d) := by
  rw [target_dial_addr u d (by rintro rfl; simp at h2)]
  exact pda_none d (C.bareV6 v hv h2)

theorem dial_addr_plain_with_port {parse : Bytes → Option UInt16} (C : SplitContract split) (u : Bytes) (d : UInt16)
    {h p : Bytes} {n : UInt16} (hh : NoSpecial h) (hp : NoSpecial p) (hn : parse p = some n) (hz : n ≠ 0) :
    target split parse u (h ++ colon :: p) d = .ok (h, n) := by
  rw [target_dial_addr u d (by simp)]
  exact pda_some d (C.plain h p hh hp) hn hz

theorem dial_addr_bracketed_with_port {parse : Bytes → Option UInt16} (C : SplitContract split) (u : Bytes) (d : UInt16)
    {v p : Bytes} {n : UInt16} (hv : NoBracket v) (hp : NoSpecial p) (hn : parse p = some n) (hz : n ≠ 0) :
    target split parse u (lbr :: v ++ rbr :: colon :: p) d = .ok (v, n) := by
  rw [target_dial_addr u d (by simp)]
  exact pda_some d (C.bracketed v p hv hp) hn hz

/-- **TLS server name defaults to the URL host** (without port, without brackets). -/
theorem sni_default (C : SplitContract split) :
    (∀ h, NoSpecial h → serverName split h = h) ∧
    (∀ h p, NoSpecial h → NoSpecial p → serverName split (h ++ colon :: p) = h) ∧
    (∀ v, NoBracket v → 2 ≤ v.count colon → serverName split (lbr :: v ++ [rbr]) = v) ∧
    (∀ v p, NoBracket v → NoSpecial p → p ≠ [] → serverName split (lbr :: v ++ rbr :: colon :: p) = v) := by
  unfold serverName tryRemovePort
  refine ⟨fun h hh => ?_, fun h p hh hp => ?_, fun v hv h2 => ?_, fun v p hv hp hpne => ?_⟩
  · rw [trim_noLbr h hh.noLbr, C.noColon h hh.noColon]
  · rw [trim_plain_port h p hh hp, C.plain h p hh hp]
  · rw [trim_brackets v, C.bareV6 v hv h2]
  · rw [trim_bracketed_port v p hp hpne, C.bracketed v p hv hp]

/-! ## Several bootstrapped upstreams in one process

Every upstream resolves its own host name and dials the answer on its own
port, whatever other upstreams (same name, other ports, other schemes) were
created before or after it in the same process. -/

def bootPerCall : Bool := Gen.Facts.c18BootNewPerCall == some true
def bootOwnPort : Bool := Gen.Facts.c18BootAddrOwnPort == some true

theorem bootPerCall_true : bootPerCall = true := by decide
theorem bootOwnPort_true : bootOwnPort = true := by decide

theorem boot_guard : Gen.Facts.c18BootNewPerCall = some true ∧ Gen.Facts.c18BootAddrOwnPort = some true ∧
    Gen.Facts.c18BootCallsPassTarget = some true := ⟨rfl, rfl, rfl⟩

theorem createAll_perCall (other : List Boot → Bytes → UInt16 → Boot) (reg : List Boot)
    (cfgs : List (Bytes × UInt16)) :
    createAll true other reg cfgs = cfgs.map (fun c => { fqdn := fqdn c.1, port := c.2 }) := by
  induction cfgs generalizing reg with
  | nil => rfl
  | cons c rest ih =>
    obtain ⟨h, p⟩ := c
    simp [createAll, bootNew, ih]

/-- **Independence.** With per-call Bootstraps, upstream number `i` of a
process asks for its own name and uses its own port - for every history of
other upstreams, every earlier registry and whatever the unknown parts are. -/
theorem boot_independent (other : List Boot → Bytes → UInt16 → Boot) (otherPort : Boot → UInt16)
    (reg : List Boot) (cfgs : List (Bytes × UInt16)) (i : Nat) (c : Bytes × UInt16)
    (hc : cfgs[i]? = some c) :
    ((createAll true other reg cfgs)[i]?).map (bootDial true otherPort) = some (fqdn c.1, c.2) := by
  rw [createAll_perCall]
  simp [List.getElem?_map, hc, bootDial]

/-- The same on this tree (the two regenerated facts), for the upstream created after `before`. -/
theorem boot_own_target (other : List Boot → Bytes → UInt16 → Boot) (otherPort : Boot → UInt16) (reg : List Boot)
    (before after : List (Bytes × UInt16)) (t : Bytes × UInt16) :
    ((createAll bootPerCall other reg (before ++ t :: after))[before.length]?).map (bootDial bootOwnPort otherPort)
      = some (fqdn t.1, t.2) := by
  rw [bootPerCall_true, bootOwnPort_true]
  exact boot_independent other otherPort reg _ _ t (by simp)

/-- **Bootstrapped `host:port`.** An upstream written `h:p` (host name `h`,
`p` parsing to a non-zero `n`), created in one process after any upstreams
`before` and followed by any upstreams `after`, asks the bootstrap server for
`h.` and dials the answer on port `n`: never the port of another upstream. The
model's `bootNew`/`bootDial` are instantiated with the regenerated facts. -/
theorem bootstrapped_host_port (C : SplitContract split) (h p : Bytes) (hh : NoSpecial h) (hp : NoSpecial p)
    (n d : UInt16) (hn : parse p = some n) (hz : n ≠ 0)
    (other : List Boot → Bytes → UInt16 → Boot) (otherPort : Boot → UInt16) (reg : List Boot)
    (before after : List (Bytes × UInt16)) :
    ∃ t, target split parse (h ++ colon :: p) [] d = .ok t ∧
      ((createAll bootPerCall other reg (before ++ t :: after))[before.length]?).map (bootDial bootOwnPort otherPort)
        = some (fqdn h, n) :=
  ⟨(h, n), (plain_with_port C d hh hp).1 n hn hz, boot_own_target other otherPort reg before after (h, n)⟩

/-- **Bootstrapped host without port / with `dial_addr` `h:p`**: same statement
for the scheme default port and for a dial_addr override. -/
theorem bootstrapped_default_and_dial_addr (C : SplitContract split) (h : Bytes) (hh : NoSpecial h) (d : UInt16)
    (other : List Boot → Bytes → UInt16 → Boot) (otherPort : Boot → UInt16) (reg : List Boot)
    (before after : List (Bytes × UInt16)) :
    (∃ t, target split parse h [] d = .ok t ∧
      ((createAll bootPerCall other reg (before ++ t :: after))[before.length]?).map (bootDial bootOwnPort otherPort)
        = some (fqdn h, d)) ∧
    (∀ u p n, NoSpecial p → parse p = some n → n ≠ 0 →
      ∃ t, target split parse u (h ++ colon :: p) d = .ok t ∧
      ((createAll bootPerCall other reg (before ++ t :: after))[before.length]?).map (bootDial bootOwnPort otherPort)
        = some (fqdn h, n)) :=
  ⟨⟨(h, d), plain_no_port C d hh, boot_own_target other otherPort reg before after (h, d)⟩,
    fun u _ n hp hn hz => ⟨(h, n), dial_addr_plain_with_port C u d hh hp hn hz,
      boot_own_target other otherPort reg before after (h, n)⟩⟩

/-- Non-vacuity of the hypothesis: when `bootstrap.New` may hand out a
Bootstrap made earlier for the same name, the statement is false - the second
of two upstreams on one name gets the first one's port. -/
example :
    let shared : List Boot → Bytes → UInt16 → Boot := fun reg h p =>
      match reg.find? (fun b => b.fqdn == fqdn h) with
      | some b => b
      | none => { fqdn := fqdn h, port := p }
    (createAll false shared [] [([100, 110, 115], 853), ([100, 110, 115], 443)]).map (bootDial true (fun _ => 0))
      = [([100, 110, 115, 46], 853), ([100, 110, 115, 46], 853)] := by decide  -- "dns" on 853 and on 443: both dial "dns." on 853

/-! ## DoH / HTTP3: server name and request authority

For `https` / `h3` the TLS server name is what Go's HTTP clients derive from
the endpoint URL (`URL.Hostname()`, model `urlHostname`), and the requests carry
the endpoint URL's host. Given the three regenerated facts (the endpoint is the
string of the URL as the user wrote it; the DoH upstream sends its requests to
that URL; an IPv6 literal written without brackets gets them back first) the
server name is the URL host for every form of the grammar: host name / IPv4 /
bracketed IPv6 with or without port, and bare IPv6. -/

def dohKeeps : Bool :=
  Gen.Facts.c18DohEndpointIsAddrUrl == some true && Gen.Facts.c18DohRequestKeepsEndpointHost == some true
def dohRestores : Bool := Gen.Facts.c18DohRestoresV6Brackets == some true

theorem dohKeeps_true : dohKeeps = true := by decide
theorem dohRestores_true : dohRestores = true := by decide

theorem doh_guard : Gen.Facts.c18DohEndpointIsAddrUrl = some true ∧
    Gen.Facts.c18DohRequestKeepsEndpointHost = some true ∧
    Gen.Facts.c18DohRestoresV6Brackets = some true := ⟨rfl, rfl, rfl⟩

/-- What the theorems assume of `netip.ParseAddr(s)` succeeding with an IPv6
address: such a string has at least two colons and does not start with a
bracket (a zone, `::1%x`, may contain anything; the correspondence checks both
clauses on the real library). -/
structure V6Contract (isV6 : Bytes → Bool) : Prop where
  twoColons : ∀ s, s.count colon < 2 → isV6 s = false
  startsBracket : ∀ s, isV6 (lbr :: s) = false

theorem splitLastColon_none (s : Bytes) (h : colon ∉ s) : splitLastColon s = none := by
  induction s with
  | nil => rfl
  | cons c t ih =>
    have ⟨hc, ht⟩ := List.ne_and_not_mem_of_not_mem_cons h
    simp [splitLastColon, ih ht, hc.symm]

theorem splitLastColon_append (h p : Bytes) (hp : colon ∉ p) :
    splitLastColon (h ++ colon :: p) = some (h, colon :: p) := by
  induction h with
  | nil => simp [splitLastColon, splitLastColon_none p hp]
  | cons c t ih => simp [splitLastColon, ih]

theorem lastColon_cases (s : Bytes) : colon ∉ s ∨ ∃ h p, s = h ++ colon :: p ∧ colon ∉ p :=
  if h : colon ∈ s then .inr (Lemmas.List.mem_split_last h) else .inl h

theorem digits_no_colon (p : Bytes) (hd : p.all isDigit = true) : colon ∉ p := by
  intro m
  have := List.all_eq_true.mp hd colon m
  exact absurd this (by decide)

theorem stripPort_noColon {s : Bytes} (h : colon ∉ s) : stripPort s = s := by
  rw [stripPort, splitLastColon_none s h]

theorem stripPort_append (h : Bytes) {p : Bytes} (hp : colon ∉ p) :
    stripPort (h ++ colon :: p) = if p.all isDigit then h else h ++ colon :: p := by
  rw [stripPort, splitLastColon_append h p hp]
  simp [validOptionalPort]

theorem stripPort_last_nondigit {s : Bytes} {x : UInt8} (hl : s.getLast? = some x) (hx : isDigit x = false)
    (hc : x ≠ colon) : stripPort s = s := by
  rcases lastColon_cases s with h | ⟨h, p, rfl, hp⟩
  · exact stripPort_noColon h
  · rw [stripPort_append h hp, if_neg]
    intro hd
    have : x ∈ colon :: p := List.mem_of_getLast? (by simpa [List.getLast?_append] using hl)
    rcases List.mem_cons.mp this with rfl | hm
    · exact hc rfl
    · rw [List.all_eq_true.mp hd x hm] at hx; cases hx

theorem stripPort_port (h p : Bytes) (hd : p.all isDigit = true) : stripPort (h ++ colon :: p) = h := by
  rw [stripPort_append h (digits_no_colon p hd), if_pos hd]

theorem urlHostname_plain (h : Bytes) (hh : NoSpecial h) : urlHostname h = h := by
  rw [urlHostname, stripPort_noColon hh.noColon]
  exact trimBrackets_noLbr h hh.noLbr

theorem urlHostname_port (h p : Bytes) (hh : NoSpecial h) (hd : p.all isDigit = true) :
    urlHostname (h ++ colon :: p) = h := by
  unfold urlHostname
  rw [stripPort_port h p hd]
  exact trimBrackets_noLbr h hh.noLbr

theorem urlHostname_brackets (v : Bytes) : urlHostname (lbr :: v ++ [rbr]) = v := by
  unfold urlHostname
  have hl : (lbr :: v ++ [rbr]).getLast? = some rbr := List.getLast?_concat ..
  rw [stripPort_last_nondigit hl (by decide) (by decide)]
  exact trimBrackets_brackets v

theorem urlHostname_brackets_port (v p : Bytes) (hd : p.all isDigit = true) :
    urlHostname (lbr :: v ++ rbr :: colon :: p) = v := by
  unfold urlHostname
  rw [show lbr :: v ++ rbr :: colon :: p = (lbr :: v ++ [rbr]) ++ colon :: p by simp, stripPort_port _ p hd]
  exact trimBrackets_brackets v

section
variable {other : Bytes → Bytes} {isV6 : Bytes → Bool}

theorem dohEndpointHost_notV6 {u : Bytes} (h : isV6 u = false) :
    dohEndpointHost dohKeeps dohRestores other isV6 u = u := by
  simp [dohEndpointHost, h, dohKeeps_true]

theorem dohEndpointHost_v6 {v : Bytes} (h : isV6 v = true) :
    dohEndpointHost dohKeeps dohRestores other isV6 v = lbr :: v ++ [rbr] := by
  simp [dohEndpointHost, h, dohKeeps_true, dohRestores_true]

theorem dohServerName_notV6 {u : Bytes} (h : isV6 u = false) :
    dohServerName dohKeeps dohRestores other isV6 u = urlHostname u := by
  rw [dohServerName, dohEndpointHost_notV6 h]

theorem dohServerName_v6 {v : Bytes} (h : isV6 v = true) : dohServerName dohKeeps dohRestores other isV6 v = v := by
  rw [dohServerName, dohEndpointHost_v6 h, urlHostname_brackets]
end

/-- **DoH / HTTP3: the TLS server name is the URL host** (without port, without
brackets), whatever the unknown parts are - for host names and IPv4, for
bracketed IPv6, and for an IPv6 literal written WITHOUT brackets (whose
brackets the code restores before the endpoint is rendered; finding F15).
**The requests are addressed to the URL host**: exactly as written, an IPv6
literal in brackets whether or not the user wrote them. -/
theorem doh_server_name (other : Bytes → Bytes) {isV6 : Bytes → Bool} (V : V6Contract isV6) :
    (∀ h, NoSpecial h → dohServerName dohKeeps dohRestores other isV6 h = h) ∧
    (∀ h p, NoSpecial h → p.all isDigit = true →
      dohServerName dohKeeps dohRestores other isV6 (h ++ colon :: p) = h) ∧
    (∀ v, dohServerName dohKeeps dohRestores other isV6 (lbr :: v ++ [rbr]) = v) ∧
    (∀ v p, p.all isDigit = true →
      dohServerName dohKeeps dohRestores other isV6 (lbr :: v ++ rbr :: colon :: p) = v) ∧
    (∀ v, isV6 v = true → dohServerName dohKeeps dohRestores other isV6 v = v) ∧
    (∀ u, isV6 u = false → dohEndpointHost dohKeeps dohRestores other isV6 u = u) ∧
    (∀ v, isV6 v = true → dohEndpointHost dohKeeps dohRestores other isV6 v = lbr :: v ++ [rbr]) := by
  refine ⟨fun h hh => ?_, fun h p hh hd => ?_, fun v => ?_, fun v p hd => ?_, fun v => dohServerName_v6,
    fun u => dohEndpointHost_notV6, fun v => dohEndpointHost_v6⟩
  · rw [dohServerName_notV6 (V.twoColons h (by rw [List.count_eq_zero.mpr hh.noColon]; decide))]
    exact urlHostname_plain h hh
  · have hp := digits_no_colon p hd
    have h2 : (h ++ colon :: p).count colon < 2 := by
      rw [List.count_append, List.count_cons_self, List.count_eq_zero.mpr hh.noColon, List.count_eq_zero.mpr hp]
      decide
    rw [dohServerName_notV6 (V.twoColons _ h2)]
    exact urlHostname_port h p hh hd
  · rw [dohServerName_notV6 (u := lbr :: v ++ [rbr]) (V.startsBracket _)]
    exact urlHostname_brackets v
  · rw [dohServerName_notV6 (u := lbr :: v ++ rbr :: colon :: p) (V.startsBracket _)]
    exact urlHostname_brackets_port v p hd

/-- DoH and DoT agree: on every form above the server name Go's HTTP clients
derive equals the one `NewUpstream` computes itself for `tls` / `quic`. -/
theorem doh_server_name_eq_tls (C : SplitContract split) (other : Bytes → Bytes)
    {isV6 : Bytes → Bool} (V : V6Contract isV6) :
    (∀ h, NoSpecial h → dohServerName dohKeeps dohRestores other isV6 h = serverName split h) ∧
    (∀ h p, NoSpecial h → NoSpecial p → p.all isDigit = true →
      dohServerName dohKeeps dohRestores other isV6 (h ++ colon :: p) = serverName split (h ++ colon :: p)) ∧
    (∀ v, NoBracket v → 2 ≤ v.count colon →
      dohServerName dohKeeps dohRestores other isV6 (lbr :: v ++ [rbr]) = serverName split (lbr :: v ++ [rbr])) ∧
    (∀ v p, NoBracket v → NoSpecial p → p ≠ [] → p.all isDigit = true →
      dohServerName dohKeeps dohRestores other isV6 (lbr :: v ++ rbr :: colon :: p)
        = serverName split (lbr :: v ++ rbr :: colon :: p)) ∧
    (∀ v, NoBracket v → 2 ≤ v.count colon → isV6 v = true →
      dohServerName dohKeeps dohRestores other isV6 v = serverName split v) := by
  obtain ⟨dohPlain, dohPort, dohBracketed, dohBracketedPort, dohBareV6, -, -⟩ := doh_server_name other V
  obtain ⟨sniPlain, sniPort, sniBracketed, sniBracketedPort⟩ := sni_default C
  refine ⟨?_, ?_, ?_, ?_, ?_⟩
  · intro h hh; rw [dohPlain h hh, sniPlain h hh]
  · intro h p hh hp hd; rw [dohPort h p hh hd, sniPort h p hh hp]
  · intro v hv h2; rw [dohBracketed v, sniBracketed v hv h2]
  · intro v p hv hp hpne hd; rw [dohBracketedPort v p hd, sniBracketedPort v p hv hp hpne]
  · intro v hv h2 h6
    -- `sni_default` has no clause for a bare IPv6 literal: `split` refuses it, so the trimmed host is the name
    rw [dohBareV6 v h6, serverName, tryRemovePort, trim_noLbr v hv.noLbr, C.bareV6 v hv h2]

/-- Non-vacuity of the first hypothesis: if the endpoint is built from the
bracket-trimmed host instead, `https://[2001:db8::1]/...` gets the server name
`2001:db8:` (and port 1). -/
example : dohServerName false false Gen.tryTrimIpv6Brackets (fun _ => false)
    [91, 50, 48, 48, 49, 58, 100, 98, 56, 58, 58, 49, 93] = [50, 48, 48, 49, 58, 100, 98, 56, 58] := by decide  -- "[2001:db8::1]", "2001:db8:"
example : dohServerName true true id (fun _ => false)
    [91, 50, 48, 48, 49, 58, 100, 98, 56, 58, 58, 49, 93, 58, 56, 52, 52, 51]
    = [50, 48, 48, 49, 58, 100, 98, 56, 58, 58, 49] := by decide  -- "[2001:db8::1]:8443", "2001:db8::1"
/-- Non-vacuity of the third fact, and a witness of finding F15 (the tree
before fix bb593cc): without the bracket restoration a BARE IPv6 URL host
`https://2001:db8::1/...`, which `net/url` accepts, has `URL.Hostname()`
`2001:db8:`; with it the server name is the address. -/
example : dohServerName true false id (fun _ => true) [50, 48, 48, 49, 58, 100, 98, 56, 58, 58, 49]
    = [50, 48, 48, 49, 58, 100, 98, 56, 58] := by decide  -- "2001:db8::1", "2001:db8:"
example : dohServerName true true id (fun _ => true) [50, 48, 48, 49, 58, 100, 98, 56, 58, 58, 49]
    = [50, 48, 48, 49, 58, 100, 98, 56, 58, 58, 49] := by decide  -- "2001:db8::1" twice
example : dohEndpointHost true true id (fun _ => true) [50, 48, 48, 49, 58, 100, 98, 56, 58, 58, 49]
    = [91, 50, 48, 48, 49, 58, 100, 98, 56, 58, 58, 49, 93] := by decide  -- "2001:db8::1", "[2001:db8::1]"
/-- Non-vacuity of the second fact (the requests go to the endpoint's own host): a
constructor that drops a written-out default port by replacing the host with
`URL.Hostname()` (seeded change C18-m15) sends `https://[fd00::53]:443/...` to
the host `fd00::53`, whose `URL.Hostname()` is `fd00:`, and verifies
`[2001:db8::8:53]:443` against `2001:db8::8`, another valid address; a host
name with `:443` is unharmed. With the fact, doh_server_name gives the address
for every decimal port, the scheme default included. -/
example : dohServerName false true urlHostname (fun _ => false) [91, 102, 100, 48, 48, 58, 58, 53, 51, 93, 58, 52, 52, 51]
    = [102, 100, 48, 48, 58] := by decide  -- "[fd00::53]:443", "fd00:"
example : dohServerName false true urlHostname (fun _ => false) [91, 50, 48, 48, 49, 58, 100, 98, 56, 58, 58, 56, 58, 53, 51, 93, 58, 52, 52, 51]
    = [50, 48, 48, 49, 58, 100, 98, 56, 58, 58, 56] := by decide  -- "[2001:db8::8:53]:443", "2001:db8::8"
example : dohServerName false true urlHostname (fun _ => false) [100, 110, 115, 46, 116, 101, 115, 116, 58, 52, 52, 51]
    = [100, 110, 115, 46, 116, 101, 115, 116] := by decide  -- "dns.test:443", "dns.test"
example : dohServerName true true id (fun _ => false) [91, 102, 100, 48, 48, 58, 58, 53, 51, 93, 58, 52, 52, 51]
    = [102, 100, 48, 48, 58, 58, 53, 51] := by decide  -- "[fd00::53]:443", "fd00::53"

/-! ## SOCKS5 and a configured bootstrap server

A stream upstream behind a SOCKS5 proxy asks the proxy to CONNECT to exactly
its dial target - the host NAME as written when the host is a name - whatever
a configured bootstrap server would answer for that name. -/

def socksAsWritten : Bool := Gen.Facts.c18Socks5ConnectsToTarget == some true

theorem socksAsWritten_true : socksAsWritten = true := by decide

theorem socks_guard : Gen.Facts.c18Socks5ConnectsToTarget = some true := rfl

/-- **CONNECT target = dial target**, for every bootstrap answer and whatever the unknown part is. -/
theorem socks5_connect_target (other : Bytes × UInt16 → Option Bytes → Bytes × UInt16)
    (resolved : Option Bytes) (t : Bytes × UInt16) :
    connectTarget socksAsWritten other resolved t = t := by
  simp [connectTarget, socksAsWritten_true]

/-- **Host name behind a proxy, bootstrap configured**: `h` / `h:p` in the URL or
`h:p` as dial_addr - the proxy is asked for the name `h` and the port written
(scheme default when omitted), never for an address the bootstrap server gave. -/
theorem socks5_host_name (C : SplitContract split) (h : Bytes) (hh : NoSpecial h) (d : UInt16)
    (other : Bytes × UInt16 → Option Bytes → Bytes × UInt16) (resolved : Option Bytes) :
    (target split parse h [] d).map (connectTarget socksAsWritten other resolved) = .ok (h, d) ∧
    (∀ p n, NoSpecial p → parse p = some n → n ≠ 0 →
      (target split parse (h ++ colon :: p) [] d).map (connectTarget socksAsWritten other resolved) = .ok (h, n)) ∧
    (∀ u p n, NoSpecial p → parse p = some n → n ≠ 0 →
      (target split parse u (h ++ colon :: p) d).map (connectTarget socksAsWritten other resolved) = .ok (h, n)) ∧
    (h ≠ [] → ∀ u, (target split parse u h d).map (connectTarget socksAsWritten other resolved) = .ok (h, d)) := by
  have hconnect : ∀ t : Bytes × UInt16,
      (Except.ok t : Except Unit _).map (connectTarget socksAsWritten other resolved) = .ok t :=
    fun t => congrArg Except.ok (socks5_connect_target other resolved t)
  refine ⟨?_, fun p n hp hn hz => ?_, fun u p n hp hn hz => ?_, fun hne u => ?_⟩
  · rw [plain_no_port C d hh, hconnect]
  · rw [(plain_with_port C d hh hp).1 n hn hz, hconnect]
  · rw [dial_addr_plain_with_port C u d hh hp hn hz, hconnect]
  · rw [dial_addr_plain_no_port C u d hne hh, hconnect]

/-- Non-vacuity: a dialer that runs the bootstrap decision tree before the proxy
asks the proxy for the bootstrap server's answer instead of the name. -/
example :
    let viaBootstrap : Bytes × UInt16 → Option Bytes → Bytes × UInt16 := fun t r =>
      match r with
      | some ip => (ip, t.2)
      | none => t
    connectTarget false viaBootstrap (some [49, 50, 55, 46, 48, 46, 48, 46, 57]) ([100, 110, 115], 853)
      = ([49, 50, 55, 46, 48, 46, 48, 46, 57], 853) := by decide  -- resolved "127.0.0.9", target "dns" on 853

/-! ## Upstreams of a forward plugin

Position `i` of the upstream list of a forward built from configuration dials
the target of entry `i`'s own `addr` / `dial_addr` - whatever the other entries
are (the same `addr` with another `dial_addr` in particular). -/

def fwdPerEntry : Bool := Gen.Facts.c18FwdUpstreamPerEntry == some true

theorem fwdPerEntry_true : fwdPerEntry = true := by decide

theorem fwd_guard : Gen.Facts.c18FwdUpstreamPerEntry = some true := rfl

theorem fwdUpstreams_perEntry (other : List FwdCfg → FwdCfg → FwdCfg) (made cfgs : List FwdCfg) :
    fwdUpstreams true other made cfgs = cfgs := by
  induction cfgs generalizing made with
  | nil => rfl
  | cons c rest ih => simp [fwdUpstreams, ih]

/-- **Every entry dials its own target**: for all entries before and after it. -/
theorem forward_entry_own_target (other : List FwdCfg → FwdCfg → FwdCfg) (made before after : List FwdCfg)
    (u a : Bytes) (d : UInt16) :
    ((fwdUpstreams fwdPerEntry other made (before ++ (u, a, d) :: after))[before.length]?).map
        (fun c => target split parse c.1 c.2.1 c.2.2) = some (target split parse u a d) := by
  rw [fwdPerEntry_true, fwdUpstreams_perEntry]
  simp

/-- **dial_addr of an entry is honoured** in its forms host / IP, `host:port`,
`[IPv6]:port`, for every `addr` (shared with other entries or not). -/
theorem forward_entry_dial_addr (C : SplitContract split) (other : List FwdCfg → FwdCfg → FwdCfg)
    (made before after : List FwdCfg) (u : Bytes) (d : UInt16) :
    (∀ h, h ≠ [] → NoSpecial h →
      ((fwdUpstreams fwdPerEntry other made (before ++ (u, h, d) :: after))[before.length]?).map
        (fun c => target split parse c.1 c.2.1 c.2.2) = some (.ok (h, d))) ∧
    (∀ h p n, NoSpecial h → NoSpecial p → parse p = some n → n ≠ 0 →
      ((fwdUpstreams fwdPerEntry other made (before ++ (u, h ++ colon :: p, d) :: after))[before.length]?).map
        (fun c => target split parse c.1 c.2.1 c.2.2) = some (.ok (h, n))) ∧
    (∀ v p n, NoBracket v → NoSpecial p → parse p = some n → n ≠ 0 →
      ((fwdUpstreams fwdPerEntry other made (before ++ (u, lbr :: v ++ rbr :: colon :: p, d) :: after))[before.length]?).map
        (fun c => target split parse c.1 c.2.1 c.2.2) = some (.ok (v, n))) := by
  refine ⟨?_, ?_, ?_⟩
  · intro h hne hh
    rw [forward_entry_own_target, dial_addr_plain_no_port C u d hne hh]
  · intro h p n hh hp hn hz
    rw [forward_entry_own_target, dial_addr_plain_with_port C u d hh hp hn hz]
  · intro v p n hv hp hn hz
    rw [forward_entry_own_target, dial_addr_bracketed_with_port C u d hv hp hn hz]

/-- Non-vacuity: a forward that reuses the upstream made for an earlier entry
with the same `addr` sends the second entry's queries to the first one's
dial_addr. -/
example :
    let shared : List FwdCfg → FwdCfg → FwdCfg := fun made c =>
      match made.find? (fun m => m.1 == c.1) with
      | some m => m
      | none => c
    (fwdUpstreams false shared [] [([100, 110, 115], [56, 46, 56, 46, 56, 46, 56], 443), ([100, 110, 115], [56, 46, 56, 46, 52, 46, 52], 443)]).map
        (fun c => target splitHostPort parseUint16 c.1 c.2.1 c.2.2)
      = [.ok ([56, 46, 56, 46, 56, 46, 56], 443), .ok ([56, 46, 56, 46, 56, 46, 56], 443)] := by rfl  -- "dns" twice, with dial_addr "8.8.8.8" and "8.8.4.4"

/-! Non-vacuity: the executable model of SplitHostPort on one instance of every
contract clause, and the targets of concrete addresses. -/
example : splitHostPort [100, 110, 115, 46, 101, 120, 97, 109, 112, 108, 101, 58, 56, 53, 51] = some ([100, 110, 115, 46, 101, 120, 97, 109, 112, 108, 101], [56, 53, 51]) := by decide  -- "dns.example:853"
example : splitHostPort [91, 50, 48, 48, 49, 58, 100, 98, 56, 58, 58, 49, 93, 58, 53, 51] = some ([50, 48, 48, 49, 58, 100, 98, 56, 58, 58, 49], [53, 51]) := by decide  -- "[2001:db8::1]:53"
example : splitHostPort [50, 48, 48, 49, 58, 100, 98, 56, 58, 58, 49] = none ∧ splitHostPort [91, 50, 48, 48, 49, 58, 100, 98, 56, 58, 58, 49, 93] = none ∧ splitHostPort [49, 46, 49, 46, 49, 46, 49] = none := by decide  -- "2001:db8::1", "[2001:db8::1]", "1.1.1.1"
example : target splitHostPort parseUint16 [91, 50, 48, 48, 49, 58, 100, 98, 56, 58, 58, 49, 93] [] 53 = .ok ([50, 48, 48, 49, 58, 100, 98, 56, 58, 58, 49], 53) := by rfl  -- "[2001:db8::1]"
example : target splitHostPort parseUint16 [91, 50, 48, 48, 49, 58, 100, 98, 56, 58, 58, 49, 93, 58, 53, 51, 53, 51] [] 53 = .ok ([50, 48, 48, 49, 58, 100, 98, 56, 58, 58, 49], 5353) := by rfl  -- "[2001:db8::1]:5353"
example : target splitHostPort parseUint16 [100, 110, 115, 46, 101, 120, 97, 109, 112, 108, 101] [57, 46, 57, 46, 57, 46, 57, 58, 56, 53, 51] 853 = .ok ([57, 46, 57, 46, 57, 46, 57], 853) := by rfl  -- "dns.example", dial_addr "9.9.9.9:853"
example : serverName splitHostPort [100, 110, 115, 46, 101, 120, 97, 109, 112, 108, 101, 58, 56, 53, 51] = [100, 110, 115, 46, 101, 120, 97, 109, 112, 108, 101] := by decide  -- "dns.example:853", "dns.example"
example : target splitHostPort parseUint16 [49, 46, 49, 46, 49, 46, 49, 58, 54, 53, 53, 51, 54] [] 53 = .error () := by rfl  -- "1.1.1.1:65536": the port is rejected

end Props.C18

import MosdnsVerif.Model.C19
import MosdnsVerif.Gen.Facts

/-!
# C19 — cache dumps reload faithfully; damaged dumps are harmless

A dump is a sequence of blocks, each an 8-byte big-endian length followed by the marshaled entries
(`Model.C19.plain`); gzip and protobuf enter as parameters (`clean`; `enc` / `dec` with `dec (enc b) = some b`). The
first part is about the loader on every prefix of one dump (every crash point of the writer, every truncated copy);
each later section is about one thing the writer or the API handler does, read from the source as a regenerated fact,
without which an intact dump would not reload whole.
-/
namespace Props.C19
open Model.C19

theorem be64_length (n : Nat) : (be64 n).length = 8 := rfl

/-- Folding the `k` low base-256 digits of `n`, most significant first, onto an accumulator `a` gives
`a * 256 ^ k + n % 256 ^ k`. -/
theorem foldl_digits (n : Nat) : ∀ k a, ((List.range k).reverse.map fun i => UInt8.ofNat (n / 256 ^ i % 256)).foldl
    (fun acc x => acc * 256 + x.toNat) a = a * 256 ^ k + n % 256 ^ k := by
  intro k
  induction k with
  | zero => intro a; rw [Nat.pow_zero, Nat.mod_one, Nat.mul_one]; rfl
  | succ k ih =>
    intro a
    -- the list for `k + 1` is digit `k` followed by the list for `k`: one step of the fold, then `ih`
    rw [List.range_succ, List.reverse_append, List.reverse_singleton, List.singleton_append, List.map_cons, List.foldl_cons, ih]
    show (a * 256 + (UInt8.ofNat (n / 256 ^ k % 256)).toNat) * 256 ^ k + n % 256 ^ k = a * 256 ^ (k + 1) + n % 256 ^ (k + 1)
    -- `Nat.mod_pow_succ` splits `n % 256 ^ (k + 1)` into `n % 256 ^ k` and digit `k`; both sides become sums of the same
    -- three products
    rw [Nat.mod_pow_succ, Nat.pow_succ, UInt8.toNat_ofNat', Nat.mod_mod_of_dvd _ (by decide : 2 ^ 8 ∣ 256), Nat.add_mul, Nat.mul_assoc]
    ac_rfl

theorem be64_eq (n : Nat) : be64 n = (List.range 8).reverse.map fun i => UInt8.ofNat (n / 256 ^ i % 256) := by
  -- once the right side is evaluated the two lists differ in the last entry only, `n % 256` against `n / 256 ^ 0 % 256`
  show _ = [_, _, _, _, _, _, _, UInt8.ofNat (n / 256 ^ 0 % 256)]
  rw [Nat.pow_zero, Nat.div_one]
  rfl

theorem unbe64_be64 (n : Nat) (rest : Bytes) : unbe64 (be64 n ++ rest) = n % 2 ^ 64 := by
  rw [unbe64, List.take_left' (l₁ := be64 n) (i := 8) rfl, be64_eq, foldl_digits, Nat.zero_mul, Nat.zero_add]

variable {E : Type}

theorem readN_ok {a : Bytes} {n : Nat} (h : a.length = n) (r : Bytes) (clean : Bool) :
    readN (a ++ r) clean n = .ok (a, r) := by
  simp [readN, ← h]

theorem readN_short (p : Bytes) (n : Nat) (h : p.length < n) :
    readN p false n = .error .unexpected := by
  simp [readN, Nat.not_le.mpr h]

theorem load_header (dec : Bytes → Option (List E)) (fuel n : Nat) (hn : n ≤ maxBlock) (q : Bytes) (clean : Bool) :
    load dec (fuel + 1) (be64 n ++ q) clean =
      match readN q clean n with
      | .error _ => ([], true)
      | .ok (body, rest') =>
        match dec body with
        | none => ([], true)
        | some es => (es ++ (load dec fuel rest' clean).1, (load dec fuel rest' clean).2) := by
  have hu : unbe64 (be64 n) = n := by
    rw [← List.append_nil (be64 n), unbe64_be64, Nat.mod_eq_of_lt (Nat.lt_of_le_of_lt hn (by decide))]
  rw [load, readN_ok (be64_length n)]
  simp only [hu, if_neg (Nat.not_lt.mpr hn)]
  rfl

theorem load_nil (dec : Bytes → Option (List E)) (fuel : Nat) (clean : Bool) : load dec (fuel + 1) [] clean = ([], !clean) := by
  cases clean <;> rfl

theorem load_cut (dec : Bytes → Option (List E)) (fuel : Nat) {n : Nat} (hn : n ≤ maxBlock) {p rest : Bytes}
    (hp : p <+: be64 n ++ rest) (hlen : p.length < 8 + n) : load dec (fuel + 1) p false = ([], true) := by
  by_cases h8 : 8 ≤ p.length
  · obtain ⟨q, rfl⟩ := List.prefix_of_prefix_length_le (List.prefix_append _ _) hp h8
    rw [load_header dec fuel n hn, readN_short q n (by rw [List.length_append, be64_length] at hlen; omega)]
  · rw [load, readN_short p 8 (Nat.lt_of_not_le h8)]

theorem plain_cons (enc : List E → Bytes) (b : List E) (bs : List (List E)) :
    plain enc (b :: bs) = be64 (enc b).length ++ enc b ++ plain enc bs := by simp [plain]

/-- **C19 (truncation safety and faithful block decoding).**
Let `blocks` be the blocks the writer formed (each within the size limit,
`dec ∘ enc = id`). For *every* prefix `p` of the plaintext - every crash point
of the periodic dump, every truncated copy - with `clean` true only for the
complete stream:
* the entries handed to the store are exactly the entries of the blocks that
  are wholly contained in `p` (so only entries of the intact dump, in order,
  and all of them when `p` is complete), and
* an error is reported iff the stream did not end cleanly. -/
theorem load_prefix (enc : List E → Bytes) (dec : Bytes → Option (List E))
    (hcodec : ∀ b, dec (enc b) = some b) :
    ∀ (blocks : List (List E)), (∀ b ∈ blocks, (enc b).length ≤ maxBlock) →
    ∀ (p : Bytes) (clean : Bool) (fuel : Nat),
      p <+: plain enc blocks → (clean = true → p = plain enc blocks) → blocks.length < fuel →
      load dec fuel p clean = ((whole enc blocks p).flatten, !clean) := by
  intro blocks
  induction blocks with
  | nil =>
    intro _ p clean fuel hp _ hf
    obtain ⟨f, rfl⟩ := Nat.exists_eq_add_one.mpr (Nat.zero_lt_of_lt hf)
    obtain rfl := List.prefix_nil.mp hp
    exact load_nil dec f clean
  | cons b bs ih =>
    intro hfit p clean fuel hp hc hf
    obtain ⟨f, rfl⟩ := Nat.exists_eq_add_one.mpr (Nat.zero_lt_of_lt hf)
    have hb : (enc b).length ≤ maxBlock := hfit b List.mem_cons_self
    rw [plain_cons] at hp hc
    simp only [whole]
    by_cases hlen : (be64 (enc b).length ++ enc b).length ≤ p.length
    · rw [if_pos hlen]
      obtain ⟨p', rfl⟩ := List.prefix_of_prefix_length_le (List.prefix_append _ _) hp hlen
      have ih' := ih (fun x hx => hfit x (List.mem_cons_of_mem _ hx)) p' clean f ((List.prefix_append_right_inj _).mp hp)
        (fun h => List.append_cancel_left (hc h)) (Nat.lt_of_succ_lt_succ hf)
      rw [List.drop_left, List.flatten_cons, List.append_assoc, load_header dec f _ hb, readN_ok rfl]
      simp only [hcodec, ih']
    · rw [if_neg hlen]
      have hcf : clean = false := Bool.eq_false_iff.mpr fun h => hlen (by simp [hc h])
      subst hcf
      rw [List.append_assoc] at hp
      exact load_cut dec f hb hp (by simpa [be64_length] using hlen)

/-- **Oversized blocks are refused before allocating**: a length field above
1 MiB makes the loader stop with an error; nothing of that block is read. -/
theorem bounded_alloc (dec : Bytes → Option (List E)) (fuel : Nat) (h rest : Bytes) (clean : Bool)
    (hl : h.length = 8) (hbig : unbe64 h > maxBlock) : load dec (fuel + 1) (h ++ rest) clean = ([], true) := by
  rw [load, readN_ok hl]
  simp [hbig]

/-- Whatever the bytes, the loader is a total function (the model cannot
panic or diverge) and every entry it stores came out of a successfully
decoded block. -/
theorem load_total (dec : Bytes → Option (List E)) (fuel : Nat) (p : Bytes) (clean : Bool) :
    ∃ es err, load dec fuel p clean = (es, err) := ⟨_, _, rfl⟩

/-- The blocks wholly inside a prefix are an initial segment of all blocks:
a truncated dump never adds an entry the intact dump does not contain. -/
theorem whole_prefix (enc : List E → Bytes) : ∀ (blocks : List (List E)) (p : Bytes), whole enc blocks p <+: blocks := by
  intro blocks p
  fun_induction whole enc blocks p with
  | case1 => exact List.nil_prefix                                          -- no block left
  | case2 b bs p frame hfits ih => exact List.cons_prefix_cons.mpr ⟨rfl, ih⟩   -- the first block lies inside `p`
  | case3 => exact List.nil_prefix                                          -- the first block is cut

theorem whole_plain (enc : List E → Bytes) : ∀ blocks : List (List E), whole enc blocks (plain enc blocks) = blocks := by
  intro blocks
  induction blocks with
  | nil => rfl
  | cons b bs ih =>
    rw [plain_cons, whole, if_pos (by simp), List.drop_left, ih]

/-- Loading the complete, cleanly closed dump returns every entry, in order, without error. -/
theorem reload_all (enc : List E → Bytes) (dec : Bytes → Option (List E)) (hcodec : ∀ b, dec (enc b) = some b)
    (blocks : List (List E)) (hfit : ∀ b ∈ blocks, (enc b).length ≤ maxBlock) :
    load dec (blocks.length + 1) (plain enc blocks) true = (blocks.flatten, false) := by
  rw [load_prefix enc dec hcodec blocks hfit (plain enc blocks) true (blocks.length + 1) (List.prefix_refl _)
    (fun _ => rfl) (Nat.lt_succ_self _), whole_plain]
  rfl

/-- Stored, message-expiry and cache-expiry times are written as Unix seconds;
a reloaded entry therefore ages by `δ'` with `δ ≤ δ' ≤ δ + 1` whole seconds
where `δ` is what the original entry would have aged - the served TTLs agree
to the second. (`s` = stored time, `t` = now, in ns.) -/
theorem reload_age (s t : Nat) (h : s ≤ t) :
    let sec := 1000000000
    let δ := (t - s) / sec
    let δ' := (t - s / sec * sec) / sec
    δ ≤ δ' ∧ δ' ≤ δ + 1 := by
  intro sec δ δ'
  simp only [sec, δ, δ']
  omega

/-! ### Overlapping dumps of one cache

The periodic dump, the dump in `Close` and `GET /dump` are not serialised. As
long as every `writeDump` call keeps the marshaled block in a buffer of its own
(`localBuf = true`, the regenerated fact `c19WriterStateLocal`), a step of one
dump changes nothing another dump will emit: under *every* interleaving of any
number of dumps each one emits exactly the stream of its own blocks, and so
reloads to exactly the entries it collected. -/

theorem set_dumps_ne (w : World E) (d : Dump E) {i j : Nat} (h : j ≠ i) : (w.set i d).dumps j = w.dumps j :=
  if_neg h

theorem step_other (enc : List E → Bytes) (lb : Bool) (w : World E) (i j : Nat) (h : j ≠ i) :
    (step enc lb w i).dumps j = w.dumps j := by
  unfold step
  -- by where dump `i` stands: before Marshal, `gw.Write(l)` pending, `gw.Write(b)` pending
  rcases hpc : (w.dumps i).pc with _ | _ | n
  · rcases htodo : (w.dumps i).todo with _ | ⟨b, t⟩
    · simp only [hpc, htodo]
    · cases lb <;> simp only [hpc, htodo] <;> exact set_dumps_ne _ _ h
  · simp only [hpc]; exact set_dumps_ne _ _ h
  · simp only [hpc]; exact set_dumps_ne _ _ h

theorem step_keeps (enc : List E → Bytes) (w : World E) (i j : Nat) :
    ((step enc true w i).dumps j).out ++ ((step enc true w i).dumps j).rest enc
      = (w.dumps j).out ++ (w.dumps j).rest enc := by
  by_cases h : j = i
  · -- the dump that moves appends to `out` what its step takes off `rest`
    subst h
    unfold step
    rcases hpc : (w.dumps j).pc with _ | _ | n
    · -- before Marshal: nothing goes out
      rcases htodo : (w.dumps j).todo with _ | ⟨b, t⟩
      · simp only [hpc, htodo]
      · simp [World.set, Dump.rest, hpc, htodo, plain]
    · simp [World.set, Dump.rest, hpc]   -- `gw.Write(l)`: the header goes out
    · simp [World.set, Dump.rest, hpc]   -- `gw.Write(b)`: the body goes out
  · rw [step_other enc true w i j h]

theorem run_keeps (enc : List E → Bytes) (sched : List Nat) : ∀ (w : World E) (j : Nat),
    ((run enc true sched w).dumps j).out ++ ((run enc true sched w).dumps j).rest enc
      = (w.dumps j).out ++ (w.dumps j).rest enc := by
  induction sched with
  | nil => intro w j; rfl
  | cons i s ih => intro w j; simp only [run]; rw [ih, step_keeps]

/-- **C19 (overlapping dumps are independent).** Any number of dumps of one
cache, started with the blocks each collected, interleaved in any order, with
any leftover content in memory: a dump that has finished has emitted exactly
the stream of its own blocks. -/
theorem overlapping_dumps_independent (enc : List E → Bytes) (blocksOf : Nat → List (List E))
    (scratch : Bytes) (sched : List Nat) (i : Nat)
    (hfin : ((run enc true sched ⟨fun j => Dump.fresh (blocksOf j), scratch⟩).dumps i).finished = true) :
    ((run enc true sched ⟨fun j => Dump.fresh (blocksOf j), scratch⟩).dumps i).out = plain enc (blocksOf i) := by
  have h := run_keeps enc sched ⟨fun j => Dump.fresh (blocksOf j), scratch⟩ i
  generalize (run enc true sched ⟨fun j => Dump.fresh (blocksOf j), scratch⟩).dumps i = d at h hfin
  obtain ⟨hpc, htodo⟩ : d.pc = 0 ∧ d.todo = [] := by simpa [Dump.finished] using hfin
  -- a finished dump has nothing left to emit, a fresh one has emitted nothing
  simpa [Dump.rest, hpc, htodo, plain, Dump.fresh] using h

/-- ... and therefore reloads to exactly the entries it collected, without error. -/
theorem overlapping_dump_reloads (enc : List E → Bytes) (dec : Bytes → Option (List E))
    (hcodec : ∀ b, dec (enc b) = some b) (blocksOf : Nat → List (List E))
    (scratch : Bytes) (sched : List Nat) (i : Nat)
    (hfit : ∀ b ∈ blocksOf i, (enc b).length ≤ maxBlock)
    (hfin : ((run enc true sched ⟨fun j => Dump.fresh (blocksOf j), scratch⟩).dumps i).finished = true) :
    load dec ((blocksOf i).length + 1)
      ((run enc true sched ⟨fun j => Dump.fresh (blocksOf j), scratch⟩).dumps i).out true
      = ((blocksOf i).flatten, false) := by
  rw [overlapping_dumps_independent enc blocksOf scratch sched i hfin]
  exact reload_all enc dec hcodec (blocksOf i) hfit

/-- Where this tree's `writeDump` keeps the marshaled block (regenerated). -/
def writerLocal : Bool := Gen.Facts.c19WriterStateLocal == some true

theorem writerLocal_true : writerLocal = true := by decide

/-- The same statement for the writer of the source, as regenerated. -/
theorem overlapping_dumps_on_this_tree (enc : List E → Bytes) (dec : Bytes → Option (List E))
    (hcodec : ∀ b, dec (enc b) = some b) (blocksOf : Nat → List (List E))
    (scratch : Bytes) (sched : List Nat) (i : Nat)
    (hfit : ∀ b ∈ blocksOf i, (enc b).length ≤ maxBlock)
    (hfin : ((run enc writerLocal sched ⟨fun j => Dump.fresh (blocksOf j), scratch⟩).dumps i).finished = true) :
    load dec ((blocksOf i).length + 1)
      ((run enc writerLocal sched ⟨fun j => Dump.fresh (blocksOf j), scratch⟩).dumps i).out true
      = ((blocksOf i).flatten, false) := by
  rw [writerLocal_true] at hfin ⊢
  exact overlapping_dump_reloads enc dec hcodec blocksOf scratch sched i hfit hfin

/-! ### The key field of a dumped entry takes any octets

Cache keys are binary. With the key in a proto3 `bytes` field (regenerated fact
`c19KeyFieldIsBytes`: dump.proto, the Go field type and the raw descriptor
agree) every block marshals whatever the questions are, so `writeDump` writes
every block it formed and the reload returns ALL entries. With a validated
(`string`) field the first entry whose key is not valid UTF-8 - a question of
type ANY / AXFR / TYPE128..255, class ANY / NONE, a name of 128 octets or more -
makes the dump end there with an error. -/

theorem written_bytes (keyOf : E → Bytes) : ∀ blocks : List (List E), written .bytes keyOf blocks = (blocks, false) := by
  intro blocks
  induction blocks with
  | nil => rfl
  | cons b bs ih => simp [written, marshals, ih]

/-- **C19 (every live entry is reproduced, whatever its question).** -/
theorem reload_all_keys (enc : List E → Bytes) (dec : Bytes → Option (List E)) (hcodec : ∀ b, dec (enc b) = some b)
    (keyOf : E → Bytes) (blocks : List (List E)) (hfit : ∀ b ∈ blocks, (enc b).length ≤ maxBlock) :
    (written .bytes keyOf blocks).2 = false ∧
    load dec (blocks.length + 1) (plain enc (written .bytes keyOf blocks).1) true = (blocks.flatten, false) := by
  rw [written_bytes]
  exact ⟨rfl, reload_all enc dec hcodec blocks hfit⟩

/-- The kind of the key field in this tree's dump schema (regenerated). -/
def keyKind : FieldKind := if Gen.Facts.c19KeyFieldIsBytes == some true then .bytes else .utf8

theorem keyKind_bytes : keyKind = .bytes := by decide

theorem reload_all_keys_on_this_tree (enc : List E → Bytes) (dec : Bytes → Option (List E)) (hcodec : ∀ b, dec (enc b) = some b)
    (keyOf : E → Bytes) (blocks : List (List E)) (hfit : ∀ b ∈ blocks, (enc b).length ≤ maxBlock) :
    (written keyKind keyOf blocks).2 = false ∧
    load dec (blocks.length + 1) (plain enc (written keyKind keyOf blocks).1) true = (blocks.flatten, false) := by
  rw [keyKind_bytes]
  exact reload_all_keys enc dec hcodec keyOf blocks hfit

/-- A validated key field loses the dump: one entry whose key is not valid
UTF-8 in the first block, and nothing is written (the hypothesis on the field
kind is needed). -/
theorem utf8_key_field_loses_dump (keyOf : E → Bytes) (b : List E) (bs : List (List E)) (e : E) (he : e ∈ b)
    (hbad : validUtf8 (keyOf e) = false) : written .utf8 keyOf (b :: bs) = ([], true) := by
  have : b.all (fun e => marshals .utf8 (keyOf e)) = false := List.all_eq_false.mpr ⟨e, he, by simp [marshals, hbad]⟩
  simp [written, this]

theorem inR_ascii {b : UInt8} (hb : b.toNat < 128) (lo hi : Nat) (hlo : 128 ≤ lo) : inR lo hi b = false := by
  simp [inR, Nat.not_le.mpr (Nat.lt_of_lt_of_le hb hlo)]

/-- An octet >= 0x80 followed by an ASCII octet is never well-formed UTF-8. -/
theorem high_then_ascii (f : Nat) (a b : UInt8) (rest : Bytes) (ha : 128 ≤ a.toNat) (hb : b.toNat < 128) :
    validUtf8Aux (f + 1) (a :: b :: rest) = false := by
  have na : ¬ a.toNat < 128 := Nat.not_lt.mpr ha
  -- every continuation range starts at 0x80 or above, so `b` is in none of them
  have l2 : ∀ hi, inR (if a.toNat = 0xE0 then 0xA0 else 0x80) hi b = false := fun hi => inR_ascii hb _ hi (by split <;> decide)
  have l3 : ∀ hi, inR (if a.toNat = 0xF0 then 0x90 else 0x80) hi b = false := fun hi => inR_ascii hb _ hi (by split <;> decide)
  -- the length of `rest` decides the `match` of the three- and four-octet arms; every arm is `false` or tests `b` first
  rcases rest with _ | ⟨c, _ | ⟨d, r⟩⟩ <;>
    simp only [validUtf8Aux, if_neg na, inR_ascii hb 0x80 0xBF (by decide), l2, l3, Bool.false_and, ite_self]

theorem validUtf8Aux_ascii (f : Nat) (a : UInt8) (rest : Bytes) (ha : a.toNat < 128) :
    validUtf8Aux (f + 1) (a :: rest) = validUtf8Aux f rest := by
  simp only [validUtf8Aux, ha, if_true]

theorem ascii_high_ascii (pre : Bytes) (hpre : ∀ x ∈ pre, x.toNat < 128) (a b : UInt8) (rest : Bytes)
    (ha : 128 ≤ a.toNat) (hb : b.toNat < 128) : validUtf8 (pre ++ a :: b :: rest) = false := by
  unfold validUtf8
  induction pre with
  | nil => exact high_then_ascii _ a b rest ha hb
  | cons x pre ih =>
    rw [List.cons_append, List.length_cons, validUtf8Aux_ascii _ _ _ (hpre x List.mem_cons_self)]
    exact ih fun y hy => hpre y (List.mem_cons_of_mem _ hy)

theorem ofNat_ascii_of_mod {x : Nat} (h : x % 256 < 128) : (UInt8.ofNat x).toNat < 128 := by
  rwa [UInt8.toNat_ofNat']
theorem ofNat_ascii {x : Nat} (h : x < 128) : (UInt8.ofNat x).toNat < 128 :=
  ofNat_ascii_of_mod (Nat.lt_of_le_of_lt (Nat.mod_le x 256) h)
theorem ofNat_high_of_mod {x : Nat} (h : 128 ≤ x % 256) : 128 ≤ (UInt8.ofNat x).toNat := by
  rwa [UInt8.toNat_ofNat']

/-- Keys of questions whose type has a low octet >= 0x80 (ANY, AXFR, IXFR,
MAILA/B, TSIG, TKEY, TYPE128..255, ...) are not valid UTF-8, whatever the name. -/
theorem high_qtype_key_not_utf8 (flags qtype qclass : Nat) (name : Bytes)
    (hf : flags < 128) (h1 : qtype / 256 < 128) (h2 : 128 ≤ qtype % 256) (h3 : qclass / 256 < 128) :
    validUtf8 (msgKey flags qtype qclass name) = false :=
  ascii_high_ascii [_, _] (by simp only [List.forall_mem_cons]; exact ⟨ofNat_ascii hf, ofNat_ascii h1, nofun⟩)
    _ _ _ (ofNat_high_of_mod h2) (ofNat_ascii h3)

/-- Keys of ordinary questions with a name of 128..255 octets are not valid
UTF-8 either: the length octet is >= 0x80 and an ASCII label octet follows. -/
theorem long_name_key_not_utf8 (flags qtype qclass : Nat) (c : UInt8) (rest : Bytes)
    (hf : flags < 128) (h1 : qtype / 256 < 128) (h2 : qtype % 256 < 128) (h3 : qclass / 256 < 128) (h4 : qclass % 256 < 128)
    (hl : 128 ≤ (c :: rest).length % 256) (hc : c.toNat < 128) :
    validUtf8 (msgKey flags qtype qclass (c :: rest)) = false :=
  ascii_high_ascii [_, _, _, _, _] (by
      simp only [List.forall_mem_cons]
      exact ⟨ofNat_ascii hf, ofNat_ascii h1, ofNat_ascii_of_mod h2, ofNat_ascii h3, ofNat_ascii_of_mod h4, nofun⟩)
    _ _ _ (ofNat_high_of_mod hl) hc

example : validUtf8 (msgKey 0 255 1 [97, 46]) = false := by decide          -- `a. IN ANY`
example : validUtf8 (msgKey 0 1 255 [97, 46]) = false := by decide          -- `a. ANY A`
example : validUtf8 (msgKey 7 1 1 [97, 46]) = true := by decide             -- `a. IN A` with AD, CD, DO
example : written .utf8 (fun (e : Nat × Bytes) => e.2) [[(0, msgKey 0 1 1 [97, 46]), (1, msgKey 0 255 1 [97, 46])], [(2, msgKey 0 28 1 [98, 46])]]
    = ([], true) := by decide

theorem facts_guard :
    Gen.Facts.c19EntryFields = some true ∧ Gen.Facts.c19BlockSize = some 128 ∧
    Gen.Facts.c19MaxBlockLen = some 1048576 ∧ Gen.Facts.c19MaxBlockCmp = Base.Cmp.gt ∧
    Gen.Facts.c19HeaderEofOnly = some true ∧ Gen.Facts.c19HeaderNameChecked = some true ∧
    Gen.Facts.c19ReadUsesAllTimes = some true ∧ Gen.Facts.c19WriterSplitsBySize = some true ∧
    Gen.Facts.c19WriterStateLocal = some true ∧ Gen.Facts.c19KeyFieldIsBytes = some true ∧
    Gen.Facts.c19LoadApiWholeBody = some true ∧
    (∃ m, Gen.Facts.c19MaxCachedRcode = some m ∧ m < 16) := by
  refine ⟨by decide, by decide, by decide, by decide, by decide, by decide, by decide, by decide, by decide, by decide, by decide, ?_⟩
  exact ⟨_, rfl, by decide⟩

/-- With the rcodes of stored responses bounded by an arm below 16, every
stored message (no OPT) packs. -/
theorem stored_packs (m rc : Nat) (hm : m < 16) (h : admitted (some m) rc) : packs rc false = true := by
  simp only [admitted] at h
  simp only [packs, Bool.or_false, decide_eq_true_eq]
  exact Nat.lt_of_le_of_lt h hm

theorem dump_packs_all (m : Nat) (hm : m < 16) (rcs : List Nat) (h : ∀ rc ∈ rcs, admitted (some m) rc) :
    dumpPacks rcs = true :=
  List.all_eq_true.mpr fun rc hrc => stored_packs m rc hm (h rc hrc)

/-- **C19 (the dump of what the plugin stored never aborts on an unpackable
entry)**, instantiated with the regenerated fact: whatever responses
`saveRespToCache` admitted, `writeDump` packs them all. Fails to type-check
when the switch gains a default arm or an arm for an extended rcode. -/
theorem dump_packs_on_this_tree (rcs : List Nat) (h : ∀ rc ∈ rcs, admitted Gen.Facts.c19MaxCachedRcode rc) :
    dumpPacks rcs = true := by
  obtain ⟨m, hm, hlt⟩ : ∃ m, Gen.Facts.c19MaxCachedRcode = some m ∧ m < 16 := ⟨_, rfl, by decide⟩
  exact dump_packs_all m hlt rcs (hm ▸ h)

/-- A default arm admits BADCOOKIE (23) next to ordinary answers, and that dump aborts: the bound is needed. -/
example : admitted none 23 ∧ dumpPacks [0, 23, 0] = false := ⟨trivial, by decide⟩

/-- **C19 (the API load is the file load).** A handler that hands the whole
body to `readDump` reloads every entry of an intact dump of any size. -/
theorem api_reload_all (enc : List E → Bytes) (dec : Bytes → Option (List E)) (hcodec : ∀ b, dec (enc b) = some b)
    (blocks : List (List E)) (hfit : ∀ b ∈ blocks, (enc b).length ≤ maxBlock) :
    apiLoad dec (blocks.length + 1) none (plain enc blocks) = (blocks.flatten, false) :=
  reload_all enc dec hcodec blocks hfit

/-- The same on this tree: whatever number `l` a cap would have, the handler described by the regenerated fact has none. -/
theorem api_reload_all_on_this_tree (enc : List E → Bytes) (dec : Bytes → Option (List E)) (hcodec : ∀ b, dec (enc b) = some b)
    (blocks : List (List E)) (hfit : ∀ b ∈ blocks, (enc b).length ≤ maxBlock) (l : Nat) :
    apiLoad dec (blocks.length + 1) (apiLimit Gen.Facts.c19LoadApiWholeBody l) (plain enc blocks) = (blocks.flatten, false) :=
  api_reload_all enc dec hcodec blocks hfit

/-- A handler that caps the body below the size of an intact dump reports an
error for it and loads only the blocks wholly inside the cap: the hypothesis
`limit = none` of `api_reload_all` is needed. -/
theorem api_limit_loses_dump (enc : List E → Bytes) (dec : Bytes → Option (List E)) (hcodec : ∀ b, dec (enc b) = some b)
    (blocks : List (List E)) (hfit : ∀ b ∈ blocks, (enc b).length ≤ maxBlock) (l : Nat)
    (hl : l < (plain enc blocks).length) :
    apiLoad dec (blocks.length + 1) (some l) (plain enc blocks) =
      ((whole enc blocks ((plain enc blocks).take l)).flatten, true) := by
  simp only [apiLoad, Nat.not_le.mpr hl, if_false]
  exact load_prefix enc dec hcodec blocks hfit ((plain enc blocks).take l) false (blocks.length + 1)
    (List.take_prefix _ _) nofun (Nat.lt_succ_self _)

/-- What the backend holds for a configured `size`: `pkg/cache` `Opts.init` raises a size below 1024 to 1024 (the
cache plugin says so at `quickSetupCache`: "If size is < 1024, 1024 will be used"). -/
def backendCap (size : Nat) : Nat := if size < 1024 then 1024 else size

/-- A body cap computed from the CONFIGURED size (`size * perEntry + room`) is
below the dump of a cache this mosdns can hold, for every size under the
documented minimum: the backend holds 1024 entries whatever `size` says, and
1024 entries of `entryLen` octets each outgrow the cap as soon as
`size * perEntry + room < 1024 * entryLen` (size 4, 8 KiB per entry, 4 KiB room:
entries of 37 octets). -/
theorem size_derived_cap_too_small (size perEntry room entryLen : Nat) (hs : size < 1024)
    (h : size * perEntry + room < 1024 * entryLen) :
    ∃ n, n ≤ backendCap size ∧ size * perEntry + room < n * entryLen :=
  ⟨1024, by simp [backendCap, hs], h⟩

example : 4 * 8192 + 4096 < 1024 * 37 := by decide   -- the figures in the parenthesis above

/-- ... and such a handler loses that dump: an error and only the blocks inside the cap. -/
theorem size_derived_limit_loses_dump (enc : List E → Bytes) (dec : Bytes → Option (List E)) (hcodec : ∀ b, dec (enc b) = some b)
    (blocks : List (List E)) (hfit : ∀ b ∈ blocks, (enc b).length ≤ maxBlock) (size perEntry room : Nat)
    (_hheld : blocks.flatten.length ≤ backendCap size)
    (hbig : size * perEntry + room < (plain enc blocks).length) :
    (apiLoad dec (blocks.length + 1) (some (size * perEntry + room)) (plain enc blocks)).2 = true := by
  rw [api_limit_loses_dump enc dec hcodec blocks hfit _ hbig]

example : backendCap 4 = 1024 ∧ backendCap 0 = 1024 ∧ backendCap 1023 = 1024 ∧ backendCap 65536 = 65536 := by decide

/-- `backendCap` is the clamp the source has: the minimum read from `pkg/cache` `Opts.init` by the extractor
(`if opts.Size < N { opts.Size = N }`, fact `c11MinSize`) is the 1024 used above. Fails `by decide` when the
source's minimum changes. -/
theorem backendCap_is_the_source_clamp :
    Gen.Facts.c11MinSize = some 1024 ∧
    ∀ n, Gen.Facts.c11MinSize = some n → ∀ size, backendCap size = (if size < n then n else size) := by
  have h : Gen.Facts.c11MinSize = some 1024 := by decide
  refine ⟨h, fun n hn size => ?_⟩
  cases h.symm.trans hn
  rfl

/-! ### Non-vacuity: two blocks over a toy codec (`enc` = identity on byte lists) -/
def encT : List UInt8 → Bytes := id
def decT : Bytes → Option (List UInt8) := some
example : load decT 5 (plain encT [[1, 2, 3], [4]]) true = ([1, 2, 3, 4], false) := by decide
example : load decT 5 ((plain encT [[1, 2, 3], [4]]).take 14) false = ([1, 2, 3], true) := by decide   -- cut inside the 2nd header
example : load decT 5 ((plain encT [[1, 2, 3], [4]]).take 10) false = ([], true) := by decide          -- cut inside the 1st body
example : load decT 5 (plain encT [[1, 2, 3], [4]]) false = ([1, 2, 3, 4], true) := by decide          -- trailer missing
example : load decT 5 (be64 (2 ^ 20 + 1) ++ [0]) true = ([], true) := by decide                         -- oversized length field

/-! Overlapping dumps: dump 0 marshals its block and is held up in `gw.Write(l)`; dump 1 runs to the end; dump 0 resumes. -/
def twoDumps : World UInt8 := ⟨fun j => Dump.fresh (if j = 0 then [[1, 2, 3]] else if j = 1 then [[7, 8, 9]] else []), []⟩
example : ((run encT true [0, 1, 1, 1, 0, 0] twoDumps).dumps 0).finished = true ∧
    ((run encT true [0, 1, 1, 1, 0, 0] twoDumps).dumps 0).out = plain encT [[1, 2, 3]] ∧
    ((run encT true [0, 1, 1, 1, 0, 0] twoDumps).dumps 1).out = plain encT [[7, 8, 9]] := by decide
/-- With a scratch buffer shared through the `Cache` the same schedule makes dump 0 emit dump 1's block: the hypothesis is needed. -/
example : ((run encT false [0, 1, 1, 1, 0, 0] twoDumps).dumps 0).finished = true ∧
    ((run encT false [0, 1, 1, 1, 0, 0] twoDumps).dumps 0).out = plain encT [[7, 8, 9]] := by decide

end Props.C19

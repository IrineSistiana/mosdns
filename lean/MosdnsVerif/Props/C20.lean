import MosdnsVerif.Lemmas.C20Inv
import MosdnsVerif.Lemmas.Lts
import MosdnsVerif.Model.C20Pool
import MosdnsVerif.Model.C20Hold
import MosdnsVerif.Model.C20Share
import MosdnsVerif.Model.C20Time
import MosdnsVerif.Model.C20Copy
import MosdnsVerif.Refine.C20
import MosdnsVerif.Gen.Facts

/-!
# C20 — fallback prefers the primary and fails over only when it should

The invariant `inv` is inductive at *every* raw state (4·5·2·3·5·2⁴ states × 17 labels
× 8 configurations with `sendFirst`): `Lemmas/C20Inv` splits it into the workers' clauses,
kept by an argument about their steps, and the caller's, which the kernel checks by
evaluation. It is then lifted by induction to executions of any length - so every
interleaving of the two workers' completion signals, the timer, the two contexts and the
caller is covered.
-/
namespace Props.C20

section Call
open Model.C20

theorem run_eq (c : Cfg) (s : St) (ls : List Label) : run c s ls = Lts.run (step c) s ls := by
  fun_induction run c s ls <;> simp only [Lts.run, *]

theorem inv_step (c : Cfg) (hsf : c.sendFirst = true) (s s' : St) (l : Label)
    (hi : inv c s = true) (hs : step c s l = some s') : inv c s' = true ∧ goodStart c s s' = true :=
  (Lemmas.C20Inv.inv_ok c hsf s hi).2 l s' hs

theorem inv_init (c : Cfg) : inv c init = true := by
  simp [inv, init, pSent, sSent, secStarted]

theorem inv_run (c : Cfg) (hsf : c.sendFirst = true) {ls : List Label} {s s' : St} (hi : inv c s = true)
    (hr : run c s ls = some s') : inv c s' = true :=
  Lts.run_inv (fun hi hs => (inv_step c hsf _ _ _ hi hs).1) hi (run_eq c s ls ▸ hr)

/-- **C20.** In every state reachable by any schedule (any interleaving of the
primary's and the secondary's steps, the timer, the contexts and the caller,
of any length), for every combination of primary/secondary outcome and
always_standby:
* the caller's result is the secondary's answer only if, when that answer was
  queued, the primary had failed, the threshold timer had already fired, or
  the secondary's own deadline had passed - so a primary that answers within
  the threshold always wins, however the goroutines are scheduled;
* the call fails with "both failed" only if neither produced an answer;
* a result attributed to a worker is that worker's answer. -/
theorem fallback_safe (c : Cfg) (hsf : c.sendFirst = true) (ls : List Label) (s : St)
    (hr : run c init ls = some s) :
    (s.result = .sec → s.sqExcuse = true ∧ c.sAns = true) ∧
    (s.result = .failed → c.pAns = false ∧ c.sAns = false) ∧
    (s.result = .prim → c.pAns = true) := by
  have hg := (Lemmas.C20Inv.inv_ok c hsf s (inv_run c hsf (inv_init c) hr)).1
  simp only [good, Bool.and_eq_true, Bool.or_eq_true, bne_iff_ne, ne_eq, Bool.not_eq_true', and_assoc] at hg
  obtain ⟨hsec, hfailed, hprim, hsecAns⟩ := hg
  exact ⟨fun h => ⟨hsec.resolve_left (· h), hsecAns.resolve_left (· h)⟩, fun h => by simpa using hfailed.resolve_left (· h),
    fun h => hprim.resolve_left (· h)⟩

/-- **The secondary is not started while the primary is within the threshold**
(without always_standby): along any execution, the step that starts
`secondary.Exec` is taken only when always_standby is on, the primary has
failed, or the threshold timer has fired. -/
theorem secondary_start_excused (c : Cfg) (hsf : c.sendFirst = true) (ls : List Label) (s s' : St) (l : Label)
    (hr : run c init ls = some s) (hs : step c s l = some s')
    (h0 : secStarted s = false) (h1 : secStarted s' = true) :
    c.standby = true ∨ primFailed c s = true ∨ s.timer = true := by
  have := (inv_step c hsf s s' l (inv_run c hsf (inv_init c) hr) hs).2
  simpa [goodStart, h0, h1, or_assoc] using this

/-- **The call ends when the caller's context ends**: whenever the context is
done and the caller has not returned, its return step is enabled. -/
theorem ctx_ends_call (c : Cfg) (s : St) (h1 : s.ctxDone = true) (h2 : s.result = .none) :
    step c s .mCtx = some { s with result := .ctx } := by
  simp [step, h1, h2]

/-- The order of the primary's two statements matters: with `close(primDone)`
before the send (the code before 0fdd322) a standby secondary overtakes an
in-time primary. Witness schedule, checked by evaluation. -/
theorem close_before_send_is_wrong :
    ∃ ls s, run ⟨true, true, true, false⟩ init ls = some s ∧ s.result = .sec ∧ s.sqExcuse = false :=
  ⟨[.sStart, .sFinish, .pFinish, .pOp, .sWaitDone, .mRecv], _, rfl, rfl, rfl⟩

-- all three results are reached: an in-time primary with a finished standby secondary; a slow primary; both fail
example : (run ⟨true, true, true, true⟩ init [.sStart, .sFinish, .pFinish, .pOp, .pOp, .sWaitDone, .mRecv]).map (·.result) = some .prim := by decide
example : (run ⟨true, true, false, true⟩ init [.timerFire, .sPickTimer, .sFinish, .sSend, .mRecv]).map (fun s => (s.result, s.sqExcuse)) = some (.sec, true) := by decide
example : (run ⟨false, false, false, true⟩ init [.pFinish, .pOp, .pOp, .sPickFailed, .sFinish, .sSend, .mRecv, .mRecv]).map (·.result) = some .failed := by decide

end Call

/-! ### The threshold timer comes from a process-wide pool

`Model.C20.init` starts every call with an unfired threshold timer. The timer
is borrowed from `pkg/pool`, so that is a statement about what earlier calls
left behind. -/
section Pool
open Model.C20 Model.C20Pool

theorem use_keeps_inv (us : List Use) (t : PTimer) (h : t.armed = true → t.tick = false) :
    (us.foldl use t).armed = true → (us.foldl use t).tick = false :=
  List.foldlRecOn (motive := fun t => t.armed = true → t.tick = false) us use h fun t _ u _ => by
    cases u with
    | fire => cases ha : t.armed <;> simp [use, ha]
    | recv => exact fun _ => rfl

/-- **A call starts with an unfired threshold timer.** Whatever happened to the
timer during any number of earlier borrows (it fired or not, its tick was
received or not, in any order), `GetTimer` hands it out pending and with an
empty channel - provided `ReleaseTimer` drains a timer that had already fired. -/
theorem handed_out_unfired (hist : List (List Use)) :
    (handedOut true hist).armed = true ∧ (handedOut true hist).tick = false := by
  induction hist with
  | nil => exact ⟨rfl, rfl⟩
  | cons us older ih =>
    refine ⟨rfl, ?_⟩
    have h := use_keeps_inv us (handedOut true older) (fun _ => ih.2)
    simp only [handedOut, reset, release]
    cases ha : (us.foldl use (handedOut true older)).armed
    · simp
    · simpa using h ha

/-- ... so the theorems above, stated from `init`, apply to every call of a
process, not only to the first one. -/
theorem call_starts_at_init (drains : Bool) (hd : drains = true) (hist : List (List Use)) :
    initOf (handedOut drains hist) = init := by
  subst hd
  simp [initOf, (handed_out_unfired hist).2, init]

theorem fallback_safe_any_call (c : Cfg) (hsf : c.sendFirst = true) (drains : Bool) (hd : drains = true)
    (hist : List (List Use)) (ls : List Label) (s : St)
    (hr : run c (initOf (handedOut drains hist)) ls = some s) :
    (s.result = .sec → s.sqExcuse = true ∧ c.sAns = true) ∧
    (s.result = .failed → c.pAns = false ∧ c.sAns = false) ∧
    (s.result = .prim → c.pAns = true) :=
  fallback_safe c hsf ls s (call_starts_at_init drains hd hist ▸ hr)

/-- Without the drain it is wrong: an earlier call in which the timer fired
while nobody was receiving (the primary failed early and the secondary then
worked past the threshold) leaves its tick in the pooled timer, and in the
next call the secondary is started by it at once - no `timerFire` in the
schedule - although the primary is within the threshold. -/
theorem release_without_drain_is_wrong :
    (handedOut false [[.fire]]).tick = true ∧
    ∃ s, run ⟨true, true, false, true⟩ (initOf (handedOut false [[.fire]])) [.sPickTimer] = some s ∧
      secStarted s = true ∧ primFailed ⟨true, true, false, true⟩ s = false :=
  ⟨rfl, _, rfl, rfl, rfl⟩

end Pool

/-! ### Whose tick it is

The workers of a call outlive it when the caller's context ends. The tick of
the timer a call borrowed must release THAT call's secondary, not a goroutine
left over from an earlier call that still waits on the same pooled timer. -/
section Hold
open Model.C20Hold

theorem hold_step_inv {s s' : St} {e : Ev} {o : Option Nat} (hi : inv s) (hs : step true s e = some (s', o)) :
    inv s' ∧ ∀ w, o = some w → s.holder = some w := by
  cases e <;> simp only [step, Option.ite_none_right_eq_some, Option.some.injEq, Prod.mk.injEq,
    Bool.not_true, Bool.or_false, Bool.false_or, Bool.and_eq_true, decide_eq_true_eq, Bool.not_eq_true',
    List.contains_eq_mem, decide_eq_false_iff_not] at hs
  case borrow c =>
    obtain ⟨hn, rfl, rfl⟩ := hs
    exact ⟨fun w hw => by simpa [hn] using hi w hw, nofun⟩
  case wait c =>
    obtain ⟨hc, rfl, rfl⟩ := hs
    exact ⟨fun w hw => (List.mem_append.mp hw).elim (hi w) (fun h => by simpa [List.mem_singleton.mp h] using hc), nofun⟩
  case leave c =>
    obtain ⟨rfl, rfl⟩ := hs
    exact ⟨fun w hw => hi w (List.mem_filter.mp hw).1, nofun⟩
  case release c =>
    -- a waiter is the holder `c`, and `c` is not waiting
    obtain ⟨⟨hc, hnw⟩, rfl, rfl⟩ := hs
    exact ⟨fun w hw => absurd (Option.some.inj ((hi w hw).symm.trans hc) ▸ hw) hnw, nofun⟩
  case fire =>
    obtain ⟨-, hs⟩ := hs
    cases hw : s.waiters with
    | nil =>
      simp only [hw, Option.some.injEq, Prod.mk.injEq] at hs
      obtain ⟨rfl, rfl⟩ := hs
      exact ⟨fun _ hx => (nomatch hx), nofun⟩
    | cons w ws =>
      -- the oldest waiter `w` gets the tick; it and those behind it wait for the holder
      simp only [hw, Option.some.injEq, Prod.mk.injEq] at hs
      obtain ⟨rfl, rfl⟩ := hs
      exact ⟨fun x hx => hi x (hw ▸ List.mem_cons_of_mem _ hx),
        fun x hx => Option.some.inj hx ▸ hi w (hw ▸ List.mem_cons_self)⟩

/- `run` also collects the ticks, which the bridge maps away. It is stated from right to left of the other bridges because
`simp only [*]` rewrites `run …` by the hypotheses of `run`'s cases before it could use the induction hypothesis. -/
theorem hold_run_eq (b : Bool) (s : St) (es : List Ev) :
    Lts.run (fun s e => (step b s e).map (·.1)) s es = (run b s es).map (·.1) := by
  fun_induction run b s es <;> simp only [Lts.run, Option.map_some, Option.map_none, *]

theorem hold_inv_run {es : List Ev} {s s' : St} {got : List Nat} (hi : inv s) (hr : run true s es = some (s', got)) :
    inv s' :=
  Lts.run_inv_fst (fun hi hs => (hold_step_inv hi hs).1) hi (by rw [hold_run_eq, hr, Option.map_some])

/-- **The tick of a call's threshold timer goes to that call.** After any history of
borrows, waits, releases and ticks - including calls that ended while their
workers were still around - whoever receives a tick belongs to the call that
holds the timer at that moment, provided the goroutine that waits on the timer
is the one that borrows and releases it (`c20TimerHeldByItsReader`). -/
theorem tick_goes_to_the_holder (es : List Ev) : ∀ (s s' : Model.C20Hold.St), Model.C20Hold.inv s →
    ∀ (got : List Nat) (e : Ev) (s'' : Model.C20Hold.St) (w : Nat),
    Model.C20Hold.run true s es = some (s', got) →
    Model.C20Hold.step true s' e = some (s'', some w) → s'.holder = some w :=
  fun _ _ hi _ _ _ w hr hs => (hold_step_inv (hold_inv_run hi hr) hs).2 w rfl

theorem tick_goes_to_the_holder_from_init (readerHolds : Bool) (hh : readerHolds = true) (es : List Ev)
    (s' s'' : Model.C20Hold.St) (got : List Nat) (e : Ev) (w : Nat)
    (hr : Model.C20Hold.run readerHolds Model.C20Hold.init es = some (s', got))
    (hs : Model.C20Hold.step readerHolds s' e = some (s'', some w)) : s'.holder = some w := by
  subst hh
  exact tick_goes_to_the_holder es _ s' (fun _ h => by cases h) got e s'' w hr hs

/-- If the caller borrows and releases the timer while the goroutine it started
waits on it, it is wrong: call 1 is abandoned by its caller while its secondary
waits for the threshold (release 1 with 1 still waiting); call 2 gets the same
timer, its secondary waits too; the tick goes to call 1's leftover goroutine and
call 2's threshold never passes. -/
theorem caller_held_timer_is_wrong :
    (Model.C20Hold.run false Model.C20Hold.init [.borrow 1, .wait 1, .release 1, .borrow 2, .wait 2, .fire]).map
      (fun r => (r.1.holder, r.2, r.1.waiters, r.1.armed)) = some (some 2, [1], [2], false) := by decide

/-- ... and with the timer held by its reader that history is not possible. -/
theorem reader_held_timer_refuses_it :
    Model.C20Hold.run true Model.C20Hold.init [.borrow 1, .wait 1, .release 1] = none := by decide

end Hold

/-! ### "Within the threshold" means within the CONFIGURED threshold

The theorems above leave the moment of `timerFire` to the environment. Here the
steps carry times. The timer is created with `Gen.fallbackThreshold ms` - the
T1 translation of `newFallbackPlugin` applied to the configured `threshold: ms` -
and cannot fire earlier than that after the start of the call (`admissible`).
By `Refine.C20.configured_threshold_honoured` that duration is `ms` itself for
every positive `ms`, so nothing that needs the timer happens before `ms`. -/
section Time
open Model.C20

/-- What one step leaves alone of what `calm` reads: only `timerFire` touches the timer, only `secCtxFire` the secondary's
deadline, and only the secondary's send the excuse, which it sets as `sendSec` does. -/
theorem step_frame {c : Cfg} {s s' : St} {l : Label} (hs : step c s l = some s') :
    (l ≠ .timerFire → s'.timer = s.timer) ∧ (l ≠ .secCtxFire → s'.secCtx = s.secCtx) ∧
    (s'.sqExcuse = s.sqExcuse ∨ s' = sendSec c s) := by
  cases l
  case mRecv | mCtx =>
    obtain ⟨r, res, rfl⟩ := Lemmas.C20Inv.step_caller rfl hs
    exact ⟨fun _ => rfl, fun _ => rfl, .inl rfl⟩
  case pOp =>
    obtain ⟨n, -, rfl⟩ := Lemmas.C20Inv.step_pOp hs
    simp only [primOp]
    split <;> exact ⟨fun _ => rfl, fun _ => rfl, .inl rfl⟩
  all_goals
    simp only [step, Option.ite_none_right_eq_some, Option.some.injEq] at hs
    obtain ⟨-, rfl⟩ := hs
  case sSend | sWaitCtx | sWaitDone | sWaitFailed | sWaitTimer => exact ⟨fun _ => rfl, fun _ => rfl, .inr rfl⟩
  case timerFire => exact ⟨fun h => absurd rfl h, fun _ => rfl, .inl rfl⟩
  case secCtxFire => exact ⟨fun _ => rfl, fun h => absurd rfl h, .inl rfl⟩
  -- the other labels set a program counter or `ctxDone`
  all_goals exact ⟨fun _ => rfl, fun _ => rfl, .inl rfl⟩

theorem timer_off {c : Cfg} {ls : List Label} {s s' : St} (hr : run c s ls = some s') (hl : Label.timerFire ∉ ls)
    (h : s.timer = false) : s'.timer = false :=
  Lts.run_inv_mem (P := fun s => s.timer = false)
    (fun hm h hs => ((step_frame hs).1 fun e => hl (e ▸ hm)).trans h) h (run_eq c s ls ▸ hr)

/-- nothing has happened yet that excuses an answer of the secondary -/
def calm (s : St) : Prop := s.timer = false ∧ s.secCtx = false ∧ s.sqExcuse = false

theorem calm_step {c : Cfg} (hp : c.pAns = true) {s s' : St} {l : Label} (hs : step c s l = some s')
    (ht : l ≠ .timerFire) (hc : l ≠ .secCtxFire) (h : calm s) : calm s' := by
  obtain ⟨h1, h2, h3⟩ := h
  obtain ⟨ft, fc, fq⟩ := step_frame hs
  refine ⟨(ft ht).trans h1, (fc hc).trans h2, ?_⟩
  rcases fq with fq | rfl
  · exact fq.trans h3
  · -- a primary that answers has not failed, so the secondary sends without an excuse
    simp [sendSec, primFailed, hp, h1, h2]

/-- the primary's answer is queued ahead of any answer of the secondary -/
def ahead (c : Cfg) (s : St) : Prop := pSent c s = true ∧ (s.pFirst = true ∨ c.sAns = false)

/-- `ahead` is a property of the view, and every change `moves` allows keeps it. -/
theorem ahead_step {c : Cfg} (hsf : c.sendFirst = true) {s s' : St} {l : Label} (hi : inv c s = true)
    (hs : step c s l = some s') (h : ahead c s) : ahead c s' :=
  have ⟨hp, hf⟩ := Lemmas.C20Inv.moves_sent (Lemmas.C20Inv.step_ok c hsf hi hs).2.2 h.1
  ⟨hp, (show s'.pFirst = s.pFirst from hf) ▸ h.2⟩

/-- **An answer of the primary that is queued before the timer fires and before the secondary's own deadline
wins**, whatever happens afterwards. -/
theorem queued_in_time_wins (c : Cfg) (hsf : c.sendFirst = true) (hp : c.pAns = true) (pre post : List Label)
    (s1 s2 : St) (ht : Label.timerFire ∉ pre) (hsc : Label.secCtxFire ∉ pre)
    (h1 : run c init pre = some s1) (hq : pSent c s1 = true) (h2 : run c s1 post = some s2) : s2.result ≠ .sec := by
  have hcalm : calm s1 := Lts.run_inv_mem (P := calm)
    (fun hm h hs => calm_step hp hs (fun e => ht (e ▸ hm)) (fun e => hsc (e ▸ hm)) h) ⟨rfl, rfl, rfl⟩
    (run_eq c init pre ▸ h1)
  have hi1 := inv_run c hsf (inv_init c) h1
  have ha : ahead c s1 := by
    refine ⟨hq, ?_⟩
    cases hf : s1.pFirst with
    | true => exact .inl rfl
    | false =>
      -- the primary was not first: the secondary has sent too, without an excuse (`calm`), so what it sent is a nil
      rcases Lemmas.C20Inv.inv_queued hi1 (Lemmas.C20Inv.inv_order hi1 hq hf) with h | h | h
      · exact .inr h
      · cases hcalm.2.2.symm.trans h
      · cases hf.symm.trans h.2.1
  obtain ⟨hi2, ha2⟩ := Lts.run_inv (P := fun s => inv c s = true ∧ ahead c s)
    (fun h hs => ⟨(inv_step c hsf _ _ _ h.1 hs).1, ahead_step hsf h.1 hs h.2⟩) ⟨hi1, ha⟩ (run_eq c s1 post ▸ h2)
  intro hres
  -- the secondary's answer is the result only if it sent one and the primary's is not queued ahead of it
  obtain ⟨hsa, -, hn⟩ := Lemmas.C20Inv.inv_sec hi2 hres
  rcases ha2.2 with h | h
  · simp [hp, ha2.1, h] at hn
  · cases hsa.symm.trans h

/-- nothing the timer does happens before the duration it was created with -/
theorem no_fire_before (th : Int) (tls : List TLabel) (hadm : admissible th tls = true)
    (hin : ∀ e ∈ tls, e.1 < th) : Label.timerFire ∉ labelsOf tls := by
  intro hm
  obtain ⟨e, he, hl⟩ := List.mem_map.mp hm
  have h2 : th ≤ e.1 := by simpa [hl] using List.all_eq_true.mp hadm e he
  have h1 := hin e he
  omega

/-- **The primary's answer wins whenever it is produced within the configured
threshold.** Configured `threshold: ms` (any positive number of milliseconds);
`pre` is what happens before `ms` have passed since the start of the call, in
any interleaving, the timer obeying the duration the plugin was built with
(`Gen.fallbackThreshold ms`) and the secondary's own deadline not yet over. If
by then the primary's answer is queued, then whatever happens afterwards
(`post`: the timer fires, the standby secondary is released, contexts end, the
caller polls) the caller's result is never the secondary's answer. -/
theorem primary_in_time_wins (c : Cfg) (hsf : c.sendFirst = true) (hp : c.pAns = true)
    (ms : Int) (hms : 0 < ms) (pre post : List TLabel) (s1 s2 : St)
    (hadm : admissible (Gen.fallbackThreshold ms) pre = true)
    (hin : ∀ e ∈ pre, e.1 < ms * 1000000)
    (hsc : Label.secCtxFire ∉ labelsOf pre)
    (h1 : run c init (labelsOf pre) = some s1) (hq : pSent c s1 = true)
    (h2 : run c s1 (labelsOf post) = some s2) : s2.result ≠ .sec := by
  rw [Refine.C20.configured_threshold_honoured ms hms] at hadm
  exact queued_in_time_wins c hsf hp _ _ s1 s2 (no_fire_before _ pre hadm hin) hsc h1 hq h2

theorem not_started_before_timer (c : Cfg) (hsf : c.sendFirst = true) (hsb : c.standby = false) (pre : List Label)
    (s : St) (ht : Label.timerFire ∉ pre) (h1 : run c init pre = some s) (hpf : primFailed c s = false) :
    secStarted s = false := by
  simpa [hsb, timer_off h1 ht rfl, hpf] using Lemmas.C20Inv.inv_start (inv_run c hsf (inv_init c) h1)

/-- **Without always_standby the secondary is not even started while the primary
is within the configured threshold**: before `ms` have passed, with a primary
that has not failed, `secondary.Exec` has not been invoked. -/
theorem secondary_not_started_within_threshold (c : Cfg) (hsf : c.sendFirst = true) (hp : c.pAns = true)
    (hsb : c.standby = false) (ms : Int) (hms : 0 < ms) (pre : List TLabel) (s : St)
    (hadm : admissible (Gen.fallbackThreshold ms) pre = true)
    (hin : ∀ e ∈ pre, e.1 < ms * 1000000)
    (h1 : run c init (labelsOf pre) = some s) : secStarted s = false := by
  rw [Refine.C20.configured_threshold_honoured ms hms] at hadm
  exact not_started_before_timer c hsf hsb _ s (no_fire_before _ pre hadm hin) h1 (by simp [primFailed, hp])

/-- The admissibility hypothesis is what carries the configured value: a plugin
that is configured with 8000 ms but built with 500 ms (a "sanitised" threshold)
starts the secondary and returns its answer 500 ms into the call, long before
the 8000 ms are over. -/
theorem replaced_threshold_is_wrong :
    let pre : List TLabel := [(500000000, .timerFire), (500000000, .sPickTimer), (500000000, .sFinish),
      (500000000, .sSend), (500000000, .mRecv)]
    admissible (500 * 1000000) pre = true ∧ (∀ e ∈ pre, e.1 < 8000 * 1000000) ∧
    ∃ s, run ⟨true, true, false, true⟩ init (labelsOf pre) = some s ∧ s.result = .sec ∧ secStarted s = true := by
  refine ⟨by decide, by decide, _, rfl, rfl, rfl⟩

example :
    let c : Cfg := ⟨true, true, true, true⟩
    let pre : List TLabel := [(0, .sStart), (0, .sFinish), (900000000, .pFinish), (900000000, .pOp)]
    let post : List TLabel := [(900000000, .pOp), (8000000000, .timerFire), (8000000000, .sWaitTimer), (8000000000, .mRecv)]
    admissible (Gen.fallbackThreshold 8000) pre = true ∧ (∀ e ∈ pre, e.1 < 8000 * 1000000) ∧
    Label.secCtxFire ∉ labelsOf pre ∧ (run c init (labelsOf pre)).map (pSent c) = some true ∧
    (run c init (labelsOf (pre ++ post))).map (·.result) = some .prim := by decide

end Time

/-! ### The queries the workers run on ("workers run on copies of the query context")

`Model.C20Copy`: the caller's, the primary's and the secondary's query after `qCtx.Copy()` twice,
under any sequence of edits of / looks at their own query by the two workers. With deep copies a
worker reads what it would read if it were alone with the caller's query: nothing the other branch
does to ITS query (`ecs_handler`, `forward_edns0opt` in one branch only) reaches the query this
branch sends upstream, in either order, and the caller's query is what it was. So "the secondary's
answer" that `fallback_safe` speaks of is an answer to the caller's query, not to a query the
primary wrote. -/
section Copies
open Model.C20Copy

theorem sees_deep (w : Who) (c : Cells) (evs : List Ev) : sees true w c evs = solo w (c.get w) evs := by
  induction evs generalizing c with
  | nil => rfl
  | cons ev evs ih =>
    cases ev with
    | edit w' e =>
      simp only [sees, solo]
      rw [ih]
      cases w <;> cases w' <;> simp [Cells.edit, Cells.get]
    | look w' =>
      simp only [sees, solo]
      rw [ih]

theorem final_deep_caller (c : Cells) (evs : List Ev) : (final true c evs).caller = c.caller := by
  induction evs generalizing c with
  | nil => rfl
  | cons ev evs ih =>
    cases ev with
    | edit w e =>
      simp only [final]
      rw [ih]
      cases w <;> simp [Cells.edit]
    | look w => simp only [final]; exact ih c

/-- **Workers share nothing with each other or with the caller.** For every caller's query and every
interleaving of the two workers' edits and reads: each worker reads exactly what it would read alone,
and the caller's query is unchanged afterwards. -/
theorem workers_run_on_private_queries (q : Opts) (evs : List Ev) :
    sees true .prim (fork q) evs = solo .prim q evs ∧ sees true .sec (fork q) evs = solo .sec q evs ∧
    (final true (fork q) evs).caller = q :=
  ⟨sees_deep .prim (fork q) evs, sees_deep .sec (fork q) evs, final_deep_caller (fork q) evs⟩

/-- a branch that does not edit its query sends the caller's query, whatever the other branch does to its own -/
theorem unedited_branch_sends_callers_query (w : Who) (q : Opts) (evs : List Ev)
    (h : ∀ e, Ev.edit w e ∉ evs) : ∀ o ∈ sees true w (fork q) evs, o = q := by
  rw [sees_deep, show (fork q).get w = q by cases w <;> rfl]
  induction evs with
  | nil => nofun
  | cons ev evs ih =>
    have ih := ih fun e hm => h e (List.mem_cons_of_mem _ hm)
    cases ev with
    | edit w' e =>
      have hne : ¬ w' = w := fun heq => h e (heq ▸ List.mem_cons_self)
      simpa only [solo, hne, if_false] using ih
    | look w' =>
      simp only [solo]
      split
      · exact List.forall_mem_cons.mpr ⟨rfl, ih⟩
      · exact ih

/-- the copies of this tree: `Context.CopyTo` deep-copies the query message and `doFallback` runs each
worker on such a copy (regenerated facts) -/
def treeCopiesDeep : Bool :=
  Gen.Facts.c20CopyToQueryDeep == some true && Gen.Facts.c20WorkersRunOnCopies == some true

theorem workers_private_in_this_tree (q : Opts) (evs : List Ev) :
    sees treeCopiesDeep .sec (fork q) evs = solo .sec q evs ∧ sees treeCopiesDeep .prim (fork q) evs = solo .prim q evs ∧
    (final treeCopiesDeep (fork q) evs).caller = q := by
  rw [show treeCopiesDeep = true by decide]
  have h := workers_run_on_private_queries q evs
  exact ⟨h.2.1, h.1, h.2.2⟩

/-- Witness: with a copy that keeps the OPT record of its origin, the client-subnet option (code 8) the primary
adds to its query is in the query the secondary sends and in the caller's query afterwards. -/
theorem shared_opt_is_wrong :
    sees false .sec (fork []) [.edit .prim (.add 8), .look .sec] = [[8]] ∧
    solo .sec [] [.edit .prim (.add 8), .look .sec] = [[]] ∧
    (final false (fork []) [.edit .prim (.add 8), .look .sec]).caller = [8] := by decide

end Copies

/-! ### Two overlapping calls never share a threshold timer (`Model.C20Share`: the pool as a table, with its other clients) -/
section Share
open Model.C20Share

theorem share_run_eq (b : Bool) (s : St) (es : List Ev) : run b s es = Lts.run (step b) s es := by
  fun_induction run b s es <;> simp only [Lts.run, *]

theorem share_at_mem : ∀ (s : St) (i : Nat) (y : Nat × Nat), at? s i = some y → y ∈ s
  | x :: xs, 0, y, h => by simp [at?] at h; simp [h]
  | x :: xs, n + 1, y, h => List.mem_cons_of_mem _ (share_at_mem xs n y (by simpa [at?] using h))

theorem share_inv_upd (f : Nat × Nat → Nat × Nat) : ∀ (s : St) (i : Nat), inv s →
    (∀ y, at? s i = some y → (f y).1 + (f y).2 = 1) → inv (upd f s i)
  | [], _, h, _ => h
  | x :: xs, 0, h, hf => by
    intro z hz
    rcases List.mem_cons.mp hz with rfl | hz
    · exact hf x rfl
    · exact h z (List.mem_cons_of_mem _ hz)
  | x :: xs, n + 1, h, hf => by
    intro z hz
    rcases List.mem_cons.mp hz with rfl | hz
    · exact h _ List.mem_cons_self
    · exact share_inv_upd f xs n (fun w hw => h w (List.mem_cons_of_mem _ hw)) hf z hz

theorem share_inv_step {s s' : St} {e : Ev} (h : inv s) (hs : step true s e = some s') : inv s' := by
  cases e with
  | fresh =>
    cases hs
    intro z hz
    rcases List.mem_append.mp hz with hz | hz
    · exact h z hz
    · cases List.mem_singleton.mp hz; rfl
  | again i => cases hs
  | get i | release i =>
    -- one unit moves between the pool and the borrowers of timer `i`; the guard says there is one to move
    cases hat : at? s i with
    | none => simp [step, hat] at hs
    | some y =>
      obtain ⟨p, k⟩ := y
      have hpk := h _ (share_at_mem s i _ hat)
      simp only [step, hat, Option.ite_none_right_eq_some, Option.some.injEq] at hs
      obtain ⟨hpos, rfl⟩ := hs
      refine share_inv_upd _ s i h fun y hy => ?_
      cases hat.symm.trans hy
      simp only at hpk ⊢; omega

theorem share_inv_reach {evs : List Ev} {s : St} (hr : run true init evs = some s) : inv s :=
  Lts.run_inv share_inv_step (fun _ h => by cases h) (share_run_eq true _ evs ▸ hr)

/-- If every client of the pool hands each timer it got back exactly once, then after ANY history of borrows and
releases by any clients no timer is held by two borrowers: two overlapping fallback calls never share a threshold timer. -/
theorem no_timer_has_two_holders (evs : List Model.C20Share.Ev) (s : Model.C20Share.St) (hr : Model.C20Share.run true Model.C20Share.init evs = some s) :
    ∀ x, x ∈ s → x.2 ≤ 1 := by
  intro x hx
  have := share_inv_reach hr x hx
  omega

/-- ... and a timer is never handed out while a borrower still holds it. -/
theorem handed_out_timer_is_unheld (evs : List Model.C20Share.Ev) (s : Model.C20Share.St) (i : Nat) (hr : Model.C20Share.run true Model.C20Share.init evs = some s) (s' : Model.C20Share.St)
    (hg : Model.C20Share.step true s (.get i) = some s') : ∃ p, at? s i = some (p, 0) := by
  cases hat : at? s i with
  | none => simp [step, hat] at hg
  | some y =>
    -- `y = (p, k)` with `0 < p` by the guard, and `p + k = 1`
    obtain ⟨p, k⟩ := y
    have hpk := share_inv_reach hr _ (share_at_mem s i _ hat)
    simp only [step, hat, Option.ite_none_right_eq_some] at hg
    simp only at hpk
    exact ⟨p, by rw [show k = 0 by omega]⟩

/-- A client that hands one timer back twice (a cancelled step whose helper releases it and whose deferred release
runs as well) breaks it: the next two borrowers hold the same timer. -/
theorem double_release_is_wrong :
    Model.C20Share.run false Model.C20Share.init [.fresh, .release 0, .again 0, .get 0, .get 0] = some [(0, 2)] := by decide

end Share

/-- The regenerated facts the models above were written from (the order of the primary's send and close, the channel's
capacity, the cases of the two selects and the collecting loop, where the timer comes from, who holds, drains and
releases it, what is copied). `decide` fails, and with it the build, once the source says otherwise. -/
theorem facts_guard :
    Gen.Facts.c20PrimarySendsBeforeClose = some true ∧ Gen.Facts.c20PrimaryFailClosesThenSendsNil = some true ∧
    Gen.Facts.c20RespChanCap = some 2 ∧ Gen.Facts.c20FirstSelectCases = some true ∧
    Gen.Facts.c20SecondSelectCases = some true ∧ Gen.Facts.c20CollectLoop = some true ∧
    Gen.Facts.c20ThresholdTimerFromPool = some true ∧ Gen.Facts.c20ReleaseTimerDrains = some true ∧
    Gen.Facts.c20GetTimerOnlyResets = some true ∧ Gen.Facts.c20TimerHeldByItsReader = some true ∧
    Gen.Facts.c20CopyToQueryDeep = some true ∧ Gen.Facts.c20WorkersRunOnCopies = some true ∧
    Gen.Facts.c20PoolClientsReleaseOnce = some true := by decide

end Props.C20

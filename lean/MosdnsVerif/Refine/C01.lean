import MosdnsVerif.Model.C01Exec
import MosdnsVerif.Gen.FnConn

/-! `Model.C01.XPipe`, the state the driver runs (the tables as hash maps), against `Model.C01.Pipe`: its steps and runs
commute with the abstraction `XPipe.abs`. -/
namespace Refine.C01
open Model.C01

theorem fn_upd (t : Tbl) (k : Nat) (v : Option Nat) : (t.upd k v).fn = upd t.fn k v := by
  funext x
  cases v <;> simp only [Tbl.upd, Tbl.fn, upd, Std.HashMap.getElem?_insert, Std.HashMap.getElem?_erase, beq_iff_eq,
    eq_comm (a := k)]

theorem fn_empty : ({} : Tbl).fn = fun _ => none := by
  funext x; simp [Tbl.fn]

theorem abs_init : ({} : XPipe).abs = {} := by
  simp [XPipe.abs, fn_empty]

theorem step_abs (tries : Nat) (x : XPipe) (l : Label) :
    (x.step tries l).map XPipe.abs = x.abs.step tries l := by
  -- what `Pipe.step` reads of `x.abs`, in the terms the conditions of `XPipe.step`'s branches are stated in: the `*` below
  -- rewrites with these three and then with the branch's conditions
  have ht : x.abs.table = x.table.fn := rfl
  have hw : x.abs.widOf = x.widOf.fn := rfl
  have hn : x.abs.next = x.next := rfl
  -- `zetaDelta`: the caller's number is a `let` in `XPipe.step`
  fun_cases XPipe.step tries x l <;> simp only [Pipe.step, *] <;> simp +zetaDelta [XPipe.abs, fn_upd]

def xrun (tries : Nat) : XPipe → List Label → Option XPipe
  | x, [] => some x
  | x, l :: ls => match x.step tries l with
    | none => none
    | some x' => xrun tries x' ls

theorem run_abs (tries : Nat) (ls : List Label) : ∀ x : XPipe, (xrun tries x ls).map XPipe.abs = x.abs.run tries ls := by
  intro x
  fun_induction xrun tries x ls <;> simp [Pipe.run, ← step_abs, *]

/-! ## the id search, one try at a time

The body of `addQueueC`'s search loop is regenerated (T1): take `nextQid`, advance the 16-bit counter,
skip the id if it is still in the waiter table. -/

theorem addQueueTry_spec (q0 : UInt16) (next : Nat) (h : next < 65536) (dup : Bool) :
    let r := Gen.addQueueTry q0 (UInt16.ofNat next) dup
    r.1 = !dup ∧ r.2.1.toNat = next ∧ r.2.2.toNat = (next + 1) % idSpace := by
  have e : (UInt16.ofNat next).toNat = next := by simp [UInt16.toNat_ofNat']; omega
  have e2 : (UInt16.ofNat next + 1).toNat = (next + 1) % 65536 := by
    rw [UInt16.toNat_add, e]; rfl
  cases dup <;> simp [Gen.addQueueTry, e, e2, idSpace]

/-- **one try of the model's id search is the regenerated loop body of `addQueueC`**, 16-bit wrap included -/
theorem alloc_step_eq_gen (table : Nat → Option Nat) (k next : Nat) (h : next < 65536) (q0 : UInt16) :
    alloc table (k + 1) next =
      (let r := Gen.addQueueTry q0 (UInt16.ofNat next) (table next).isSome
       if r.1 then (some r.2.1.toNat, r.2.2.toNat) else alloc table k r.2.2.toNat) := by
  obtain ⟨s1, s2, s3⟩ := addQueueTry_spec q0 next h (table next).isSome
  simp only [alloc, s1, s2, s3]
  cases (table next).isSome <;> simp

end Refine.C01

import MosdnsVerif.Model.Handler
import MosdnsVerif.Gen.FnHandler

/-! `Model.Handler.validUDPSize` is `getValidUDPSize` as regenerated from the source (T1),
for every advertised size that fits the 16-bit field it is carried in. -/
namespace Refine.C03
open Model.Handler

theorem validUDPSize_eq_gen (o : Option Opt) (h : ∀ x, o = some x → x.udpSize < 65536) :
    (validUDPSize o : Int) =
      Gen.getValidUDPSize o.isSome (match o with | some x => UInt16.ofNat x.udpSize | none => 0) := by
  cases o with
  | none => rfl
  | some x =>
    have e : (UInt16.ofNat x.udpSize).toNat = x.udpSize := Nat.mod_eq_of_lt (h x rfl)
    simp only [Gen.getValidUDPSize, validUDPSize, Option.isSome_some, ↓reduceIte, UInt16.lt_iff_toNat_lt,
      apply_ite UInt16.toNat, e, decide_eq_true_eq]
    show ((max x.udpSize 512 : Nat) : Int) = ((if x.udpSize < 512 then 512 else x.udpSize : Nat) : Int)
    by_cases hlt : x.udpSize < 512
    · rw [if_pos hlt, Nat.max_eq_right (Nat.le_of_lt hlt)]
    · rw [if_neg hlt, Nat.max_eq_left (Nat.le_of_not_lt hlt)]

end Refine.C03

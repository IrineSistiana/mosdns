import MosdnsVerif.Model.C04
import MosdnsVerif.Gen.FnCache
/-! Refinement: the regenerated translation of `getMsgKey` (T1) equals the model. -/
namespace Refine.C04
open Base Model.C04

theorem getMsgKey_eq (q : Query) : Gen.getMsgKey q = msgKey q := by
  have hguard : (q.response || q.opcode != 0 || q.nQuestion != 1) = !cacheable q := by
    simp only [cacheable, Bool.not_and, Bool.not_not, bne]
  unfold Gen.getMsgKey msgKey
  rw [hguard]
  cases cacheable q
  · rfl
  · have hlen : (6 + (q.name.length : Int)).toNat = q.name.length + 6 := by omega
    -- the buffer, the six `set`s and the `copyAt` computed. Left over: the flags octet, and that the name fits
    -- the buffer behind the six octets (the `min` in `copyAt`)
    simp [Go.make, Go.set, Go.copyAt, hlen, List.replicate_succ]
    refine ⟨?_, by omega⟩
    unfold flags
    cases q.ad <;> cases q.cd <;> cases q.dnssecOk <;> rfl

end Refine.C04

import MosdnsVerif.Model.C05
import MosdnsVerif.Gen.FnCache
import MosdnsVerif.Gen.FnTtl

/-! The admission decision of the C05 model is the decision part of
`saveRespToCache` as regenerated from the source (T1), for every message:
truncation, the rcode switch, the constants 30 s / 5 s / 300 s, the lazy-cache
lifetime and the final `<= 0` test. -/
namespace Refine.C05
open Model.C05

theorem toNat_min_300 (t : UInt32) : ((min t (300 : UInt32)).toNat : Int) = min (t.toNat : Int) 300 := by
  -- with the casts pushed into the branches both sides are `if _ then t.toNat else 300`, and the two tests agree
  rw [Std.min_eq_if, Int.min_def, apply_ite UInt32.toNat, apply_ite Nat.cast]
  exact ite_cond_congr (propext (UInt32.le_iff_toNat_le.trans Int.ofNat_le.symm))

/-- the last step of `saveRespToCache`, common to all rcodes: lifetimes in seconds are turned into durations -/
def gate (p : Int × Int) : Option (Int × Int) :=
  if (decide (p.1 * 1000000000 ≤ 0) || decide (p.2 * 1000000000 ≤ 0)) = true then none
  else some (p.1 * 1000000000, p.2 * 1000000000)

theorem gate_eq (p : Int × Int) :
    gate p = (if p.1 ≤ 0 ∨ p.2 ≤ 0 then none else some (p.1.toNat, p.2.toNat)).map
      (fun q : Nat × Nat => ((q.1 : Int) * 1000000000, (q.2 : Int) * 1000000000)) := by
  have scaled (a : Int) : a * 1000000000 ≤ 0 ↔ a ≤ 0 := by omega
  simp only [gate, Bool.or_eq_true, decide_eq_true_eq, scaled]
  split
  · rfl
  · rw [Option.map_some, Int.toNat_of_nonneg (by omega), Int.toNat_of_nonneg (by omega)]

theorem admission_eq_gen (lazyTtl : Int) (m : Msg) :
    Gen.saveRespToCacheTtl m.tc (m.rcode : Int) (minTTL m) (m.answer.length : Int) lazyTtl =
      (admission lazyTtl m).map (fun p => ((p.1 : Int) * 1000000000, (p.2 : Int) * 1000000000)) := by
  unfold Gen.saveRespToCacheTtl admission
  cases m.tc
  · simp only [Bool.false_eq_true, ↓reduceIte, bne_self_eq_false]
    -- the model's final test is `gate`; pushed into every leaf of `lifetimes` (`apply_ite gate`) it leaves the same
    -- tree of `if`s over the rcode on both sides, and the last `simp only` compares them leaf by leaf
    rw [← gate_eq]
    unfold lifetimes
    simp only [apply_ite gate]
    simp only [gate, beq_iff_eq, Int.natCast_eq_zero, toNat_min_300, Int.mul_comm 1000000000,
      show (m.rcode : Int) = 3 ↔ m.rcode = 3 by omega, show (m.rcode : Int) = 2 ↔ m.rcode = 2 by omega,
      apply_ite (· * (1000000000 : Int)), decide_eq_true_eq, Int.zero_mul]
  · rfl

/-! ## the TTL helpers, record by record

The bodies of the innermost loops of `SubtractTTL`, `SetTTL` and `GetMinimalTTL` are regenerated (T1);
the loops themselves (one pass over Answer, Ns, Extra, every record once) are the fact
`c05TtlHelpersVisitEveryRecordOnce`. The model only knows of a record whether it is OPT (type 41). The step of
`SubtractTTL` also carries the loop's overflow flag (`ov`); its first component is the record's new ttl. -/

theorem subRR_eq_gen (r : RR) (delta : UInt32) (ov : Bool) (rrtype : UInt16) (h : (rrtype == 41) = r.isOpt) :
    (Gen.subtractTTLStep rrtype r.ttl delta ov).1 = (subRR delta r).ttl := by
  unfold Gen.subtractTTLStep subRR
  rw [← h]
  split
  · rfl
  · simp only [decide_eq_true_eq]; split <;> rfl

theorem setRR_eq_gen (r : RR) (t : UInt32) (rrtype : UInt16) (h : (rrtype == 41) = r.isOpt) :
    Gen.setTTLStep rrtype r.ttl t = (setRR t r).ttl := by
  unfold Gen.setTTLStep setRR
  rw [← h]
  split <;> rfl

/-- the loops of `GetMinimalTTL` over the three sections, with the regenerated body; `ty` gives a record's type -/
def codeMinTTL (ty : RR → UInt16) (m : Msg) : UInt32 :=
  let r := m.rrs.foldl (fun (acc : Bool × UInt32) rr => Gen.getMinimalTTLStep (ty rr) rr.ttl acc.1 acc.2) (false, 0xFFFFFFFF)
  if !r.1 then 0 else r.2

theorem foldl_getMinimalTTLStep (ty : RR → UInt16) (hty : ∀ rr, (ty rr == 41) = rr.isOpt) (l : List RR) (acc : Bool × UInt32) :
    l.foldl (fun (acc : Bool × UInt32) rr => Gen.getMinimalTTLStep (ty rr) rr.ttl acc.1 acc.2) acc =
      (acc.1 || (l.filter (fun r => !r.isOpt)).length != 0,
       ((l.filter (fun r => !r.isOpt)).map (·.ttl)).foldl (fun a b => if b < a then b else a) acc.2) := by
  induction l generalizing acc with
  | nil => simp
  | cons r rs ih =>
    rw [List.foldl_cons, ih, List.filter_cons, ← hty r, Gen.getMinimalTTLStep]
    cases ty r == 41 <;> simp

theorem minTTL_eq_gen (ty : RR → UInt16) (hty : ∀ rr, (ty rr == 41) = rr.isOpt) (m : Msg) :
    codeMinTTL ty m = minTTL m := by
  unfold codeMinTTL minTTL
  rw [foldl_getMinimalTTLStep ty hty]
  cases (m.rrs.filter (fun r => !r.isOpt)) with
  | nil => simp
  | cons r rs =>
    have : (if r.ttl < 0xFFFFFFFF then r.ttl else 0xFFFFFFFF) = r.ttl := by
      split
      · rfl
      · next hge => exact UInt32.le_antisymm (UInt32.not_lt.mp hge) (UInt32.le_iff_toNat_le.mpr (Nat.le_of_lt_succ r.ttl.toNat_lt))
    simp [this]

end Refine.C05

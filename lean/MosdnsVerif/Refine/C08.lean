import MosdnsVerif.Props.C08
import MosdnsVerif.Gen.FnRetry

/-! C08: the bodies of the two retry loops (`ReuseConnTransport.ExchangeContext`,
`PipelineTransport.ExchangeContext`) are regenerated by T1 (`Gen.reuseExchangeTurn`,
`Gen.pipelineExchangeTurn`) and proved to be the step of the model's `loop`.

In the regenerated body of the reuse loop `isNewConn` is a local of the turn: it starts `false`
and becomes `true` only on the branch on which *this* turn found no idle connection and dialed. A
connection that comes out of the idle pool is therefore a `pooled` turn whatever its history (it may
never have carried a query: a dial that finished after its caller gave up parks its connection in the
pool). A body that asks anything else (the connection itself, a counter, the clock) is no longer the
function below: it does not translate, or takes another input, and the lemmas of this file fail. -/
namespace Refine.C08
open Model.C08 Model.C08Inst

/-- The environment of one turn, as the regenerated body of the reuse loop sees it
(`closed`, `noIdle`, `dialFails`, `tooLarge`, `exchangeFails`). The query is assumed to fit a
frame (`tooLarge = false`; framing is C16). `cannotReserve` is not an event of this transport: the
turn ends like in the model (the codes `5` here and `1`, `5` in `pipelineTurn` are any non-zero ones: `finish`
only asks whether a code is 0). -/
def reuseTurn (maxRetry : Int) (t : Turn) (retry : Int) : Option Nat × Int :=
  match t with
  | .closed => Gen.reuseExchangeTurn maxRetry retry true false false false false
  | .dialFail => Gen.reuseExchangeTurn maxRetry retry false true true false false
  | .cannotReserve => (some 5, retry)
  | .fresh ok => Gen.reuseExchangeTurn maxRetry retry false true false false (!ok)
  | .pooled ok _ => Gen.reuseExchangeTurn maxRetry retry false false false false (!ok)

/-- The same for the pipeline loop (`reserveErr`, `isNewConn`, `exchangeFails`, `ctxEnded`): a failed
lazy dial is a failed exchange on the connection created for the call. -/
def pipelineTurn (maxRetry : Int) (t : Turn) (retry : Int) : Option Nat × Int :=
  match t with
  | .closed => Gen.pipelineExchangeTurn maxRetry retry 1 false false false
  | .cannotReserve => Gen.pipelineExchangeTurn maxRetry retry 5 false false false
  | .dialFail => Gen.pipelineExchangeTurn maxRetry retry 0 true true false
  | .fresh ok => Gen.pipelineExchangeTurn maxRetry retry 0 true (!ok) false
  | .pooled ok ce => Gen.pipelineExchangeTurn maxRetry retry 0 false (!ok) ce

/-- What the call returns when the regenerated body returns (`code = 0`: the reply; otherwise the error,
named after what the turn was); the query was handed to a connection unless the turn ended before that. -/
def finish (t : Turn) (code : Nat) (n : Nat) : Res :=
  if code = 0 then ⟨.ok, n + 1, false⟩
  else match t with
    | .closed => ⟨.errClosed, n, false⟩
    | .dialFail => ⟨.errDial, n, false⟩
    | .cannotReserve => ⟨.errReserve, n, false⟩
    | .fresh _ => ⟨.errFresh, n + 1, false⟩
    | .pooled _ ce => ⟨.errGaveUp, n + 1, ce⟩

/-- The retry loop with a *regenerated* body as its step (`for { body }`: `continue` = next turn). -/
def loopGen (turn : Turn → Int → Option Nat × Int) : List Turn → Int → Nat → Res
  | [], _, n => ⟨.stuck, n, false⟩
  | t :: rest, retry, n =>
    match turn t retry with
    | (none, retry') => loopGen turn rest retry' (n + 1)
    | (some code, _) => finish t code n

def reuseLoopGen (ts : List Turn) : Res :=
  loopGen (reuseTurn ((Gen.Facts.c08ReuseMaxRetry.getD 0 : Nat) : Int)) ts 0 0

def pipelineLoopGen (ts : List Turn) : Res :=
  loopGen (pipelineTurn ((Gen.Facts.c08PipelineMaxRetry.getD 0 : Nat) : Int)) ts 0 0

/-- **Reuse: whether a failed exchange is retried depends on where the connection of this turn came
from and on the counter, on nothing else**: retried iff the turn took the connection from the idle
pool (`noIdle = false`) and `retry ≤ maxRetry`. -/
theorem reuse_failed_exchange (M r : Int) (noIdle : Bool) :
    Gen.reuseExchangeTurn M r false noIdle false false true =
      if !noIdle && decide (r ≤ M) then (none, r + 1) else (some 4, r) := by
  cases noIdle <;> simp [Gen.reuseExchangeTurn]

/-- a failure on the connection dialed by this turn is reported, whatever the counter -/
theorem reuse_fresh_failure_reported (M r : Int) :
    Gen.reuseExchangeTurn M r false true false false true = (some 4, r) :=
  reuse_failed_exchange M r true

theorem reuse_pooled_failure_retried (M r : Int) (h : r ≤ M) :
    Gen.reuseExchangeTurn M r false false false false true = (none, r + 1) := by
  simp [reuse_failed_exchange, h]

theorem pipeline_failed_exchange (M r : Int) (isNew ce : Bool) :
    Gen.pipelineExchangeTurn M r 0 isNew true ce =
      if (!isNew && decide (r < M)) && !ce then (none, r + 1) else (some 4, r) := by
  simp [Gen.pipelineExchangeTurn]

theorem loopGen_reuse_eq (M : Nat) (allow : Nat → Bool) (h : ∀ r, allow r = decide (r ≤ M)) :
    ∀ (ts : List Turn) (r n : Nat), loopGen (reuseTurn (M : Int)) ts (r : Int) n = loop allow false ts r n := by
  intro ts
  induction ts with
  | nil => intro r n; rfl
  | cons t rest ih =>
    intro r n
    match t with
    | .pooled false ce =>
      -- both loops ask the same test, `r ≤ M`. `ih` is used right to left: the model's loop at `r + 1` becomes
      -- `loopGen` at `↑(r + 1)`, where `simp` pushes the cast and meets the `↑r + 1` of the regenerated step
      simp only [loopGen, reuseTurn, Bool.not_false, reuse_failed_exchange, loop, h]
      by_cases hr : r ≤ M <;> simp [hr, finish, ← ih]
    | .closed | .dialFail | .cannotReserve | .fresh true | .fresh false | .pooled true _ =>
      simp [loopGen, reuseTurn, Gen.reuseExchangeTurn, finish, loop]

theorem loopGen_pipeline_eq (M : Nat) (allow : Nat → Bool) (h : ∀ r, allow r = decide (r < M)) :
    ∀ (ts : List Turn) (r n : Nat), loopGen (pipelineTurn (M : Int)) ts (r : Int) n = loop allow true ts r n := by
  intro ts
  induction ts with
  | nil => intro r n; rfl
  | cons t rest ih =>
    intro r n
    match t with
    | .pooled false ce =>
      -- both loops ask the same test: `r < M`, and the caller's context has not ended (`← ih` as above)
      simp only [loopGen, pipelineTurn, Bool.not_false, pipeline_failed_exchange, loop, h]
      by_cases hr : r < M <;> cases ce <;> simp [hr, finish, ← ih]
    | .closed | .dialFail | .cannotReserve | .fresh true | .fresh false | .pooled true _ =>
      simp [loopGen, pipelineTurn, Gen.pipelineExchangeTurn, finish, loop]

/-- **Refinement (reuse)**: the loop over the regenerated body is the model's loop instantiated with the
regenerated loop test, for every environment. -/
theorem reuseLoopGen_eq (ts : List Turn) : reuseLoopGen ts = reuseLoop ts :=
  loopGen_reuse_eq _ reuseAllow (fun r => Bool.eq_iff_iff.mpr <| by
    simp only [reuseAllow, Gen.Facts.c08ReuseCmp, Base.Cmp.eval_le, decide_eq_true_eq]) ts 0 0

theorem pipelineLoopGen_eq (ts : List Turn) : pipelineLoopGen ts = pipelineLoop ts :=
  loopGen_pipeline_eq _ pipelineAllow (fun r => Bool.eq_iff_iff.mpr <| by
    simp only [pipelineAllow, Gen.Facts.c08PipelineCmp, Base.Cmp.eval_lt, decide_eq_true_eq]) ts 0 0

theorem reuse_gen_at_most_4 (ts : List Turn) : (reuseLoopGen ts).attempts ≤ 4 := by
  rw [reuseLoopGen_eq]; exact Props.C08.reuse_at_most_4 ts

theorem pipeline_gen_at_most_3 (ts : List Turn) : (pipelineLoopGen ts).attempts ≤ 3 := by
  rw [pipelineLoopGen_eq]; exact Props.C08.pipeline_at_most_3 ts

/-- **Whatever the history of the connections in the pool** (`carriedAQuery`: answered queries before, or
was parked by a dial whose caller had given up and never carried one): up to 3 (reuse) / 2 (pipeline)
of them failing one after the other are absorbed when a connection dialed for the call works. -/
theorem reuse_gen_absorbs_any_history (pool : List Props.C08.PooledConn) (h : pool.length ≤ 3) :
    (reuseLoopGen (Props.C08.envOfPool pool ++ [.fresh true])).outcome = .ok := by
  rw [reuseLoopGen_eq]; exact Props.C08.reuse_absorbs_any_history pool h

theorem pipeline_gen_absorbs_any_history (pool : List Props.C08.PooledConn) (h : pool.length ≤ 2) :
    (pipelineLoopGen (Props.C08.envOfPool pool ++ [.fresh true])).outcome = .ok := by
  rw [pipelineLoopGen_eq]; exact Props.C08.pipeline_absorbs_any_history pool h

/-- a failure is reported for a pooled connection only when the regenerated loop test forbids another turn or
(pipeline) the context ended -/
theorem reuse_gen_failure_only_if (ts : List Turn) (h : (reuseLoopGen ts).outcome = .errGaveUp) :
    ∃ r, reuseAllow r = false := by
  rw [reuseLoopGen_eq] at h
  obtain ⟨r, _, hx⟩ := Props.C08.failure_only_if reuseAllow false ts 0 0 h
  rcases hx with hx | hx
  · exact ⟨r, hx⟩
  · cases hx.1

/-! ### Non-vacuity: the scenario of a connection parked by an abandoned dial -/
example : reuseLoopGen [.pooled false false, .fresh true] = ⟨.ok, 2, false⟩ := by decide
example : pipelineLoopGen [.pooled false false, .fresh true] = ⟨.ok, 2, false⟩ := by decide
example : reuseLoopGen [.fresh false, .fresh true] = ⟨.errFresh, 1, false⟩ := by decide
example : (reuseLoopGen (List.replicate 4 (.pooled false false) ++ [.fresh true])).outcome = .errGaveUp := by decide

end Refine.C08

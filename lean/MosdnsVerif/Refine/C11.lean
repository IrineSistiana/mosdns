import MosdnsVerif.Model.C11
import MosdnsVerif.Gen.FnStore

/-! The size clamp of the C11 model is `cache.Opts.init` as regenerated from the source (T1). -/
namespace Refine.C11
open Model.C11

theorem clamp_eq_gen (size : Int) : (clampSize 1024 size : Int) = Gen.cacheOptsInitSize size := by
  simp only [clampSize, Gen.cacheOptsInitSize, decide_eq_true_eq]
  split <;> split <;> omega

end Refine.C11

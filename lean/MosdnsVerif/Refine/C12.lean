import MosdnsVerif.Model.C12
import MosdnsVerif.Base.Go
import MosdnsVerif.Gen.FnDomain
import MosdnsVerif.Lemmas.List

/-! C12: the regenerated `TrimDot`, `ReverseDomainScanner` (`Scan` / `NextLabel` iterated from the scanner's initial state
`p = t = len`) and `NormalizeDomain` (T1) compute the model's `trimDot`, `scan` and `norm`. -/
namespace Refine.C12
open Model.C12

theorem splitDots_ne_nil (s : Bytes) : splitDots s ≠ [] := by
  induction s with
  | nil => simp [splitDots]
  | cons c cs ih =>
    simp only [splitDots]
    split
    · simp
    · split <;> simp

theorem splitDots_append_dot (x y : Bytes) : splitDots (x ++ dot :: y) = splitDots x ++ splitDots y := by
  induction x with
  | nil => simp [splitDots]
  | cons c cs ih =>
    simp only [List.cons_append, splitDots]
    split
    · simp [ih]
    · rw [ih]
      cases h : splitDots cs with
      | nil => exact absurd h (splitDots_ne_nil cs)
      | cons l ls => simp

theorem splitDots_nodot (s : Bytes) (h : dot ∉ s) : splitDots s = [s] := by
  induction s with
  | nil => rfl
  | cons c cs ih =>
    have ⟨hc, hcs⟩ := List.ne_and_not_mem_of_not_mem_cons h
    simp [splitDots, Ne.symm hc, ih hcs]

theorem lastIndexByte_nodot (s : Bytes) (c : UInt8) (h : c ∉ s) : Go.lastIndexByte s c = -1 := by
  induction s with
  | nil => rfl
  | cons x xs ih =>
    have ⟨hx, hxs⟩ := List.ne_and_not_mem_of_not_mem_cons h
    simp [Go.lastIndexByte, ih hxs, Ne.symm hx]

theorem lastIndexByte_split (pre lbl : Bytes) (c : UInt8) (h : c ∉ lbl) :
    Go.lastIndexByte (pre ++ c :: lbl) c = pre.length := by
  induction pre with
  | nil => simp [Go.lastIndexByte, lastIndexByte_nodot lbl c h]
  | cons x xs ih => simp [Go.lastIndexByte, ih, Int.natCast_nonneg]

/-- `scan` after its `trimDot`: the labels of an already trimmed string (`scan_eq_scanTrimmed`). -/
def scanTrimmed (u : Bytes) : List Label :=
  if u.isEmpty then [] else
  if u.head? = some dot then (splitDots u).reverse.dropLast else (splitDots u).reverse

theorem scan_eq_scanTrimmed (s : Bytes) : scan s = scanTrimmed (trimDot s) := by
  simp [scan, scanTrimmed]

theorem scanTrimmed_nodot (u : Bytes) (hne : u ≠ []) (h : dot ∉ u) : scanTrimmed u = [u] := by
  cases u with
  | nil => exact absurd rfl hne
  | cons c cs =>
    simp [scanTrimmed, Ne.symm (List.ne_of_not_mem_cons h), splitDots_nodot _ h]

theorem scanTrimmed_split (pre lbl : Bytes) (h : dot ∉ lbl) : scanTrimmed (pre ++ dot :: lbl) = lbl :: scanTrimmed pre := by
  have hne : (pre ++ dot :: lbl).isEmpty = false := by cases pre <;> simp
  simp only [scanTrimmed, hne, Bool.false_eq_true, ↓reduceIte, splitDots_append_dot, splitDots_nodot lbl h, List.reverse_append,
    List.reverse_cons, List.reverse_nil, List.nil_append, List.singleton_append]
  cases pre with
  | nil => simp [splitDots]
  | cons c cs =>
    have hx : (splitDots (c :: cs)).reverse ≠ [] := by simp [splitDots_ne_nil]
    simp only [List.cons_append, List.head?_cons, List.isEmpty_cons, Bool.false_eq_true, ↓reduceIte]
    by_cases hc : some c = some dot
    · simp only [hc, ↓reduceIte]; rw [List.dropLast_cons_of_ne_nil hx]
    · simp only [hc, ↓reduceIte]

/-- `(u ++ rest)[i:len(u)]` -/
theorem slice_append (u rest : Bytes) (i : Nat) : Go.slice (u ++ rest) i u.length = u.drop i := by
  simp only [Go.slice, Int.toNat_natCast, ← List.drop_take, List.take_left]

theorem slice_prefix (u rest : Bytes) : Go.slice (u ++ rest) 0 (u.length : Int) = u :=
  slice_append u rest 0

/-- `for scanner.Scan() { … scanner.NextLabel() … }`: `p` is the scanner's cursor (what lies before it is still to be
scanned; at first `len`), `t` the end of the label to be yielded; the fuel bounds the number of rounds, and `len + 1` is
enough since every round moves `p` down. -/
def scanLoop (str : Bytes) : Nat → Int → Int → List Label
  | 0, _, _ => []
  | fuel + 1, p, t =>
    match Gen.scannerScan str p t with
    | (false, _, _) => []
    | (true, p', t') => Gen.scannerNextLabel str p' t' :: scanLoop str fuel p' t'

theorem scanLoop_stop {p : Int} (h : p ≤ 0) (str : Bytes) (fuel : Nat) (t : Int) : scanLoop str fuel p t = [] := by
  cases fuel with
  | zero => rfl
  | succ f => simp [scanLoop, Gen.scannerScan, h]

/-- one round on a string whose unscanned part `u` is not empty: the label is what follows the last dot of `u` (all of
`u` when `lastIndexByte` gives -1), and the cursor moves to that dot -/
theorem scanLoop_succ {u : Bytes} (hu : u ≠ []) (rest : Bytes) (fuel : Nat) (t : Int) :
    scanLoop (u ++ rest) (fuel + 1) u.length t =
      Go.slice (u ++ rest) (Go.lastIndexByte u dot + 1) u.length ::
        scanLoop (u ++ rest) fuel (Go.lastIndexByte u dot) u.length := by
  have hp : ¬ ((u.length : Int) ≤ 0) := by have := List.length_pos_iff.mpr hu; omega
  simp only [scanLoop, Gen.scannerScan, hp, decide_false, Bool.false_eq_true, ↓reduceIte, slice_prefix,
    Gen.scannerNextLabel]

theorem scanLoop_eq_scanTrimmed (fuel : Nat) : ∀ (u rest : Bytes) (t : Int),
    u.length < fuel → scanLoop (u ++ rest) fuel (u.length : Int) t = scanTrimmed u := by
  -- `u` is the part of the string not yet scanned and the cursor is `u.length`; `t` is arbitrary, since `Scan`
  -- overwrites it before `NextLabel` reads it
  induction fuel with
  | zero => intro u rest t h; omega
  | succ f ih =>
    intro u rest t hfuel
    by_cases hu : u = []
    · subst hu; rw [scanLoop_stop (by simp)]; rfl
    · rw [scanLoop_succ hu]
      by_cases hd : dot ∈ u
      · -- the label behind the last dot is yielded, the scanner goes on with what precedes that dot
        obtain ⟨pre, lbl, rfl, hl⟩ := Lemmas.List.mem_split_last hd
        rw [List.length_append, List.length_cons] at hfuel
        rw [lastIndexByte_split pre lbl dot hl, scanTrimmed_split pre lbl hl]
        -- the label is `(pre ++ dot :: lbl)[len(pre)+1:]`
        rw [← Int.natCast_add_one, slice_append, List.drop_length_add_append, List.drop_succ_cons, List.drop_zero]
        rw [List.append_assoc, ih pre _ _ (by omega)]
      · -- no dot left: `u` is the last label
        rw [lastIndexByte_nodot u dot hd, scanLoop_stop (by omega), scanTrimmed_nodot u hu hd, Int.add_left_neg,
          slice_prefix]

theorem trimDot_eq (s : Bytes) : Gen.trimDot s = trimDot s := by
  rcases List.eq_nil_or_concat s with rfl | ⟨init, x, rfl⟩
  · rfl
  · have hidx : Go.idx (init ++ [x]) (init.length : Int) = x := by simp [Go.idx]
    have hlen : (1 : Int) ≤ init.length + 1 := by omega  -- the guard `len(s) >= 1`
    -- both tests come down to `x = 46`, both results to `init`
    simp [Gen.trimDot, trimDot, hidx, slice_prefix, hlen]

/-- `strings.ToLower` on an ASCII string: the 26 upper-case letters move down by 32, every
other byte stays (trusted library semantics, stated here once). -/
def asciiToLower (s : Bytes) : Bytes := s.map lower

/-- **The regenerated `NormalizeDomain` is the model's `norm`**, for every byte string: whatever
the body of the Go function is, it has to compute "lower-case every byte of `TrimDot s`". -/
theorem normalize_refines (s : Bytes) : Gen.normalizeDomain asciiToLower s = norm s := by
  simp [Gen.normalizeDomain, asciiToLower, norm, trimDot_eq]

/-- **Iterating the regenerated `Scan` / `NextLabel` from the scanner's initial state yields exactly the
label sequence of the model**, for every byte string. -/
theorem scan_refines (s : Bytes) :
    scanLoop (Gen.trimDot s) ((Gen.trimDot s).length + 1) ((Gen.trimDot s).length : Int) ((Gen.trimDot s).length : Int) = scan s := by
  rw [scan_eq_scanTrimmed, ← trimDot_eq]
  simpa using scanLoop_eq_scanTrimmed _ (Gen.trimDot s) [] _ (Nat.lt_succ_self _)

end Refine.C12

import MosdnsVerif.Gen.FnNetlist
import MosdnsVerif.Lemmas.Loop
import MosdnsVerif.Props.C13

/-!
# Refinement for C13: the regenerated `List.Contains`, text loaders and merge step of `List.Sort`

`Gen.listContains` is the Go function translated statement by statement
(binary search with `i, j, h`, then `list.e[i-1].Contains(addr)`). For a list
sorted by base address and enough fuel (`len(list.e)` iterations always
suffice) it computes: the **last** stored prefix whose base is `≤ addr`
decides - which is the model's `containsRev` on the reversed list.
-/
namespace Refine.C13

theorem cmpNat_le_zero (a b : Nat) : Go.cmpNat a b ≤ 0 ↔ a ≤ b := by
  unfold Go.cmpNat
  omega

def SortedBase (e : List Go.Pfx) : Prop := e.Pairwise (fun p q => p.1 ≤ q.1)

def lastLe (e : List Go.Pfx) (a : Nat) : Option Go.Pfx := e.reverse.find? (fun p => decide (p.1 ≤ a))

/-- Invariant of the search loop: everything left of `i` has base `≤ a`,
everything from `j` on has base `> a`. -/
structure SInv (e : List Go.Pfx) (a : Nat) (s : Int × Int) : Prop where
  i_nonneg : 0 ≤ s.1
  i_le_j : s.1 ≤ s.2
  j_le_len : s.2 ≤ e.length
  left : ∀ k : Nat, (k : Int) < s.1 → (e.getD k (0, 0)).1 ≤ a
  right : ∀ k : Nat, s.2 ≤ (k : Int) → k < e.length → a < (e.getD k (0, 0)).1

theorem sorted_le {e : List Go.Pfx} (hs : SortedBase e) {k h : Nat} (hkh : k ≤ h) (hh : h < e.length) :
    (e.getD k (0, 0)).1 ≤ (e.getD h (0, 0)).1 := by
  have hk : k < e.length := by omega
  simp only [List.getD_eq_getElem?_getD, List.getElem?_eq_getElem hk, List.getElem?_eq_getElem hh, Option.getD_some]
  rcases Nat.lt_or_eq_of_le hkh with hlt | rfl
  · exact (List.pairwise_iff_getElem.mp hs) k h hk hh hlt
  · exact Nat.le_refl _

theorem lastLe_of_partition (e : List Go.Pfx) (a n : Nat) (hn : n ≤ e.length)
    (hl : ∀ k, k < n → (e.getD k (0, 0)).1 ≤ a)
    (hr : ∀ k, n ≤ k → k < e.length → a < (e.getD k (0, 0)).1) :
    lastLe e a = if n = 0 then none else some (e.getD (n - 1) (0, 0)) := by
  have hnone : (e.drop n).reverse.find? (fun p => decide (p.1 ≤ a)) = none := by
    rw [List.find?_eq_none]
    intro x hx
    obtain ⟨k, hk, rfl⟩ := List.mem_drop_iff_getElem.mp (List.mem_reverse.mp hx)
    have hk : n + k < e.length := by omega
    simpa [hk] using hr (n + k) (by omega) hk
  rw [lastLe, ← List.take_append_drop n e, List.reverse_append, List.find?_append, hnone, Option.none_or,
    List.take_append_drop]
  cases n with
  | zero => simp
  | succ k =>
    have hk : k < e.length := hn
    rw [List.take_succ_eq_append_getElem hk, List.reverse_concat,
      List.find?_cons_of_pos (by simpa [hk] using hl k (Nat.lt_succ_self k))]
    simp [hk]

theorem mid_spec {i j : Int} (h0 : 0 ≤ i) (hij : i < j) : ∃ h : Nat, (i + j) / 2 = h ∧ i ≤ h ∧ (h : Int) < j := by
  have hb : i ≤ (i + j) / 2 ∧ (i + j) / 2 < j := by omega
  obtain ⟨h, eh⟩ := Int.eq_ofNat_of_zero_le (Int.le_trans h0 hb.1)
  exact ⟨h, eh, eh ▸ hb⟩

/-- **The regenerated `Contains` computes "the last prefix with base ≤ addr decides"** for every list
sorted by base, every address, and any fuel of at least `len(list.e)`. -/
theorem listContains_eq (e : List Go.Pfx) (hs : SortedBase e) (a fuel : Nat) (hf : e.length ≤ fuel) :
    Gen.listContains e true a fuel =
      (match lastLe e a with | none => false | some p => Go.pfxContains p a) := by
  unfold Gen.listContains
  simp only [Bool.not_true, Bool.false_eq_true, if_false]
  generalize hloop : Go.loop fuel _ _ ((0 : Int), (e.length : Int)) = r
  have hinit : SInv e a (0, e.length) :=
    { i_nonneg := Int.le_refl 0, i_le_j := Int.natCast_nonneg _, j_le_len := Int.le_refl _
      left := fun k (hk : (k : Int) < 0) => by omega
      right := fun k (hk : (e.length : Int) ≤ k) hkn => by omega }
  refine (Go.loop_inv (SInv e a) (fun s => s.2 - s.1) ?step hloop hinit (by simpa using hf)).elim
    fun ⟨h0, hij, hjn, left, right⟩ hc => ?done
  case step =>
    -- one iteration: the middle element `e[h]` goes to the side its base puts it on, the others follow by sortedness
    rintro ⟨i, j⟩ ⟨h0, hij, hjn, left, right⟩ hc
    simp only [decide_eq_true_eq] at hc
    dsimp only at h0 hij hjn left right
    obtain ⟨h, eh, hih, hhj⟩ := mid_spec h0 hc
    simp only [eh, decide_eq_true_eq, cmpNat_le_zero, Go.pfxAt, Int.toNat_natCast]
    have hmid : h < e.length := Int.ofNat_lt.mp (Int.lt_of_lt_of_le hhj hjn)
    split
    · next hle =>
      -- the next state is `(h + 1, j)`
      refine ⟨{ i_nonneg := show (0 : Int) ≤ h + 1 by omega, i_le_j := Int.add_one_le_of_lt hhj, j_le_len := hjn,
                left := fun k (hk : (k : Int) < h + 1) => ?_, right := right },
        show j - ((h : Int) + 1) < j - i ∧ 0 < j - i by omega⟩
      exact Nat.le_trans (sorted_le hs (Int.ofNat_le.mp (Int.le_of_lt_add_one hk)) hmid) hle
    · next hgt =>
      -- the next state is `(i, h)`
      refine ⟨{ i_nonneg := h0, i_le_j := hih, j_le_len := Int.ofNat_le.mpr (Nat.le_of_lt hmid),
                left := left, right := fun k (hk : (h : Int) ≤ k) hkn => ?_ },
        show (h : Int) - i < j - i ∧ 0 < j - i by omega⟩
      exact Nat.lt_of_lt_of_le (Nat.lt_of_not_le hgt) (sorted_le hs (Int.ofNat_le.mp hk) hkn)
  case done =>
    -- at the exit `i = j = n` splits the list as `lastLe_of_partition` wants it
    obtain ⟨i, j⟩ := r
    simp only [decide_eq_false_iff_not] at hc
    dsimp only at h0 hij hjn left right
    obtain rfl : i = j := by omega
    obtain ⟨n, rfl⟩ := Int.eq_ofNat_of_zero_le h0
    rw [lastLe_of_partition e a n (Int.ofNat_le.mp hjn) (fun k hk => left k (Int.ofNat_lt.mpr hk))
      (fun k hk => right k (Int.ofNat_le.mpr hk))]
    cases n with
    | zero => simp
    | succ n => simp [Go.pfxAt, show (n : Int) + 1 ≠ 0 by omega]

theorem listContains_invalid (e : List Go.Pfx) (a fuel : Nat) : Gen.listContains e false a fuel = false := by
  unfold Gen.listContains; simp

/-- A stored `netip.Prefix` as the model's interval. -/
def toIv (p : Go.Pfx) : Model.C13.Iv := Model.C13.Iv.ofPrefix ⟨p.1, p.2⟩

open Model.C13

/-- **The regenerated `Contains` is the model's `containsRev`** (on the reversed slice) for every slice
of masked prefixes sorted by base - so the binary search is not a trusted specification. -/
theorem listContains_model (e : List Go.Pfx) (hs : SortedBase e)
    (hst : ∀ p ∈ e, Props.C13.Stored ⟨p.1, p.2⟩) (a fuel : Nat) (hf : e.length ≤ fuel) :
    Gen.listContains e true a fuel = containsRev (e.reverse.map toIv) a := by
  rw [listContains_eq e hs a fuel hf]
  unfold lastLe containsRev
  rw [List.find?_map]
  have hfun : ((fun p : Iv => decide (p.lo ≤ a)) ∘ toIv) = (fun p : Go.Pfx => decide (p.1 ≤ a)) := rfl
  rw [hfun]
  cases hfind : e.reverse.find? (fun p : Go.Pfx => decide (p.1 ≤ a)) with
  | none => rfl
  | some p =>
    have hmem : p ∈ e := List.mem_reverse.mp (List.mem_of_find?_eq_some hfind)
    simp only [Option.map_some]
    exact Props.C13.covers_eq_interval ⟨p.1, p.2⟩ (hst p hmem).1 a

/-! ## The regenerated text loaders

`Gen.loadFromTextPrefix` (`netlist.LoadFromText`, list files) and
`Gen.ipSetParsePrefix` (`ip_set.parseNetipPrefix`, inline `ips`) are the Go
functions with the `netip` parsers as parameters; both are the model's
`loadLine`, so the two loaders store the same prefix for the same line, and
a single-address line covers exactly that address. -/

theorem loadFromText_eq (hasSlash : Bool) (pp : Option (PAddr × Int)) (pa : Option PAddr) :
    Gen.loadFromTextPrefix hasSlash pp pa = loadLine hasSlash pp pa := by
  unfold Gen.loadFromTextPrefix loadLine hostBits
  cases hasSlash
  · cases pa <;> rfl
  · cases pp <;> rfl

theorem ipSetParse_eq (hasSlash : Bool) (pp : Option (PAddr × Int)) (pa : Option PAddr) :
    Gen.ipSetParsePrefix hasSlash pp pa = loadLine hasSlash pp pa := by
  unfold Gen.ipSetParsePrefix loadLine hostBits
  cases hasSlash
  · cases pa <;> rfl
  · rfl

/-- **The file loader and the inline loader agree on every line.** -/
theorem loaders_agree (hasSlash : Bool) (pp : Option ((Bool × Nat) × Int)) (pa : Option (Bool × Nat)) :
    Gen.loadFromTextPrefix hasSlash pp pa = Gen.ipSetParsePrefix hasSlash pp pa := by
  rw [loadFromText_eq, ipSetParse_eq]

/-- **A single-address line of a list file**, in whatever form (`a.b.c.d`, `::ffff:a.b.c.d`, IPv6), is
accepted and the prefix `Append` stores for it covers exactly that address. -/
theorem text_host_line_single (pp : Option (PAddr × Int)) (a : PAddr) :
    ∃ r, Gen.loadFromTextPrefix false pp (some a) = some r ∧ ∀ y, (storeLine r).covers y = true ↔ y = a.to6 :=
  ⟨(a, hostBits a), by rw [loadFromText_eq]; rfl, Props.C13.host_line_single a⟩

theorem ipset_host_line_single (pp : Option (PAddr × Int)) (a : PAddr) :
    ∃ r, Gen.ipSetParsePrefix false pp (some a) = some r ∧ ∀ y, (storeLine r).covers y = true ↔ y = a.to6 := by
  rw [← loaders_agree]
  exact text_host_line_single pp a

/-! ## The regenerated merge step of `Sort` -/

/-- One iteration of `Sort`'s loop on the reversed `out` (its head `lv` is the last prefix kept so far): the regenerated
`Gen.sortMergeDecision` is asked about the prefix `n` and its answer carried out (1 = append `n`, 2 = replace `lv` by
`n`, 0 = drop `n`). Its argument `n.Bits() < lv.Bits()` is, on intervals with equal base addresses, `lv.hi < n.hi`. -/
def applyMergeDecision (out : List Iv) (n : Iv) : List Iv :=
  match out with
  | [] => if Gen.sortMergeDecision 0 false false false == 1 then [n] else []
  | lv :: rest =>
    let d := Gen.sortMergeDecision 1 (decide (n.lo = lv.lo)) (decide (lv.hi < n.hi)) (lv.covers n.lo)
    if d == 1 then n :: lv :: rest else if d == 2 then n :: rest else lv :: rest

/-- **Refinement**: one iteration of the loop in `List.Sort`, as regenerated from the source, is the model's
`mergeStep`; hence `Sort`'s merge is `mergeRev` and the theorems about `contains` apply to it. -/
theorem mergeStep_eq_gen (out : List Iv) (n : Iv) : mergeStep out n = applyMergeDecision out n := by
  cases out with
  | nil => simp [mergeStep, applyMergeDecision, Gen.sortMergeDecision]
  | cons lv rest =>
    simp only [mergeStep, applyMergeDecision, Gen.sortMergeDecision]
    by_cases h1 : n.lo = lv.lo
    · by_cases h2 : lv.hi < n.hi <;> simp [h1, h2]
    · by_cases h3 : lv.covers n.lo = true <;> simp [h1, h3]

theorem mergeRev_eq_gen (l : List Iv) : mergeRev l = l.foldl applyMergeDecision [] := by
  unfold mergeRev
  congr 1
  funext out n
  exact mergeStep_eq_gen out n

end Refine.C13

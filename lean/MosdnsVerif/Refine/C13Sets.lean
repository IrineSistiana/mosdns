import MosdnsVerif.Gen.FnNetlist
import MosdnsVerif.Model.C13

/-! T1 for `ip_set` plugins that reference other sets: the regenerated bodies of the two loops
(`MatcherGroup.Match` over the members, `NewIPSet` over `sets:`), iterated the way the Go `for … range`
statements iterate them (their shape: facts `c13GroupMatchShape`, `c13IPSetRangesSets`,
`c13IPSetOwnListFirst`), are the model's `groupMatch` and `addSets`. -/
namespace Refine.C13

/-- `for _, m := range mg { <regenerated body> }; return false`. -/
def groupLoop (ms : List (Nat → Bool)) (a : Nat) : Bool :=
  match ms with
  | [] => false
  | m :: t => if Gen.matcherGroupMatchStep (m a) then true else groupLoop t a

theorem groupLoop_eq (ms : List (Nat → Bool)) (a : Nat) : groupLoop ms a = Model.C13.groupMatch ms a := by
  induction ms with
  | nil => rfl
  | cons m t ih =>
    unfold groupLoop
    rw [ih]
    cases h : m a <;> simp [Gen.matcherGroupMatchStep, Model.C13.groupMatch, h]

/-- `for _, tag := range args.Sets { <regenerated body> }`: `built[j]?` is the plugin a tag names. -/
def setsLoop {M : Type} (built : List M) : List M → List Nat → Option (List M)
  | mg, [] => some mg
  | mg, j :: js => match Gen.newIPSetAddSet mg built[j]? with
    | none => none
    | some mg' => setsLoop built mg' js

theorem addSet_value {M : Type} (mg : List M) (r : Option M) :
    Gen.newIPSetAddSet mg r = r.map (fun m => mg ++ [m]) := by
  cases r <;> rfl

theorem setsLoop_eq (built : List (Nat → Bool)) (refs : List Nat) :
    ∀ mg, setsLoop built mg refs = Model.C13.addSets built mg refs := by
  intro mg
  fun_induction Model.C13.addSets built mg refs <;>
    simp only [setsLoop, addSet_value, Option.map_none, Option.map_some, *]

end Refine.C13

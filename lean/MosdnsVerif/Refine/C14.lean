import MosdnsVerif.Model.C14
import MosdnsVerif.Gen.FnForward

/-! C14: the regenerated body of `case res := <-resChan` of the collection loop in
`Forward.exchange` is the step of the model's `collect`. -/
namespace Refine.C14
open Model.C14

/-- a failed result is never returned by the regenerated step -/
theorem gen_step_fail (i c : Int) (rc : Int) : Gen.forwardCollectStep i c true rc = false := by
  simp [Gen.forwardCollectStep]

/-- What the regenerated case body is given for a result: whether the exchange failed ... -/
def failedOf : Res → Bool
  | .fail => true
  | .reply _ _ => false

/-- ... and the rcode of the reply. For a failed exchange any value would do: the step does not read it
(`gen_step_fail`). -/
def rcodeOf : Res → Int
  | .fail => 0
  | .reply rc _ => (rc : Int)

-- the `.fail` arm of the `match` is never taken: on a failed result the step is `false` (`gen_step_fail`)
theorem collect_res_eq_gen (c i : Nat) (r : Res) (rest : List Ev) (hi : i < c) :
    collect c i (.res r :: rest) =
      if Gen.forwardCollectStep (i : Int) (c : Int) (failedOf r) (rcodeOf r) then
        (match r with | .reply rc f => Out.reply rc f | .fail => Out.errAllFailed)
      else collect c (i + 1) rest := by
  cases r with
  | fail => simp [collect, hi, failedOf, gen_step_fail]
  | reply rc f =>
    -- without the casts the regenerated test is the model's `i < c - 1 && !good rc`, negated
    have hstep : Gen.forwardCollectStep i c false rc = !(decide (i < c - 1) && !good rc) := by
      have hlt : ((i : Int) < (c : Int) - 1) ↔ i < c - 1 := by omega
      have h3 : ((rc : Int) = 3) ↔ rc = 3 := by omega
      simp [Gen.forwardCollectStep, good, hlt, h3, Bool.or_assoc, Bool.beq_eq_decide_eq]
    simp only [collect, hi, failedOf, rcodeOf, hstep, if_true]
    cases decide (i < c - 1) && !good rc <;> rfl

/-- a NOERROR / NXDOMAIN reply is always returned by the regenerated step, whatever the iteration -/
theorem gen_step_good (i c : Int) (rc : Int) (h : rc = 0 ∨ rc = 3) : Gen.forwardCollectStep i c false rc = true := by
  rcases h with h | h <;> simp [Gen.forwardCollectStep, h]

/-- the last iteration returns whatever reply arrives -/
theorem gen_step_last (c : Int) (rc : Int) : Gen.forwardCollectStep (c - 1) c false rc = true := by
  simp [Gen.forwardCollectStep]

/-- before the last iteration a reply with another rcode is skipped -/
theorem gen_step_bad_skipped (i c : Int) (rc : Int) (hi : i < c - 1) (h0 : rc ≠ 0) (h3 : rc ≠ 3) :
    Gen.forwardCollectStep i c false rc = false := by
  simp [Gen.forwardCollectStep, hi, h0, h3]

/-- The collection loop of `Forward.exchange` with the *regenerated* case body as its step: the loop
structure (`for i := 0; i < concurrent; i++`, the two select cases, the final error) is what the
T2 fact `c14CollectShape` pins; what is done with one result is `Gen.forwardCollectStep`. -/
def collectGen (c : Nat) : Nat → List Ev → Out
  | i, [] => if i < c then .pending else .errAllFailed
  | i, ev :: rest =>
    if i < c then
      match ev with
      | .ctxDone => .errCtx
      | .res r =>
        if Gen.forwardCollectStep (i : Int) (c : Int) (failedOf r) (rcodeOf r) then
          (match r with | .reply rc f => Out.reply rc f | .fail => Out.errAllFailed)
        else collectGen c (i + 1) rest
    else .errAllFailed

/-- **Refinement**: for every limit, iteration and arrival sequence the loop over the regenerated step is the
model's `collect`; every theorem of `Props.C14` about `collect` is a theorem about `collectGen`. -/
theorem collectGen_eq (c : Nat) : ∀ (evs : List Ev) (i : Nat), collectGen c i evs = collect c i evs := by
  intro evs
  induction evs with
  | nil => intro i; simp [collectGen, collect]
  | cons ev rest ih =>
    intro i
    by_cases hi : i < c
    · cases ev with
      | ctxDone => simp [collectGen, collect, hi]
      | res r =>
        rw [collect_res_eq_gen c i r rest hi]
        simp only [collectGen, hi, if_true, ih]
    · simp [collectGen, collect, hi]

end Refine.C14

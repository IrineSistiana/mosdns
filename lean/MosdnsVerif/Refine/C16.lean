import MosdnsVerif.Model.C16
import MosdnsVerif.Lemmas.Bits
import MosdnsVerif.Gen.FnFraming

/-! C16 (T1): the regenerated stream reader `ReadRawMsgFromTCP` computes the model's `readRaw`, and each of the three
regenerated writers (`WriteRawMsgToTCP`, `copyMsgWithLenHdr`, `pool.PackTCPBuffer`) its `frame`. -/
namespace Refine.C16
open Model.C16 Go Lemmas.Bits

/-- The body the three writers share. -/
theorem writer_body_eq (b : Bytes) (h : b.length ≤ 65535) :
    Go.copyAt (Go.putU16 (Go.make ((b.length : Int) + 2)) 0 (Go.int16 b.length)) 2 b = hdr b.length ++ b := by
  have hmk : Go.make ((b.length : Int) + 2) = 0 :: 0 :: List.replicate b.length 0 := by
    rw [Go.make, show ((b.length : Int) + 2).toNat = b.length + 2 by omega]; rfl
  have hmod : ((b.length : Int) % 65536).toNat = b.length := by omega
  rw [Go.int16, hmod, hdr, ← u16_hi b.length (by omega), ← u16_lo, hmk]
  simp [Go.putU16, Go.set, Go.copyAt, Nat.add_comm 2]

theorem writeRawMsgToTCP_eq (b : Bytes) : Gen.writeRawMsgToTCP b = frame b := by
  unfold Gen.writeRawMsgToTCP frame
  by_cases h : b.length > 65535
  · simp [h, show (b.length : Int) > 65535 by omega]
  · simpa [h, show ¬ (b.length : Int) > 65535 by omega] using writer_body_eq b (by omega)

/-- the client-side framer is the same program text -/
theorem copyMsgWithLenHdr_eq (m : Bytes) : Gen.copyMsgWithLenHdr m = frame m := writeRawMsgToTCP_eq m

theorem getU16_announced (h : Bytes) : (Go.getU16 h).toNat = announced h := by
  unfold Go.getU16 announced Go.idx
  simpa using u16_of_hi_lo (h.getD 0 0) (h.getD 1 0)

theorem readRawMsgFromTCP_eq (c : Stream) : Gen.readRawMsgFromTCP c = readRaw c := by
  have hlt (h : Bytes) : (Go.getU16 h < 12) = (announced h < 12) := by
    rw [UInt16.lt_iff_toNat_lt, getU16_announced]; rfl
  have hmk (n : Nat) : (Go.make (n : Int)).length = n := List.length_replicate
  -- `hmk` matches the buffer made from the announced length, a cast; the `2` of the header buffer is a literal of `Int`
  simp only [Gen.readRawMsgFromTCP, readRaw, hlt, hmk, show (Go.make 2).length = 2 from rfl, getU16_announced,
    decide_eq_true_eq]
  -- the two differ by a `match` that rebuilds the result of the second `readFull`
  cases Go.readFull c 2 with
  | error e => rfl
  | ok p =>
    dsimp only
    split
    · rfl
    · cases Go.readFull p.2 (announced p.1) <;> rfl

/-- `pool.PackTCPBuffer` (regenerated) frames the packed message exactly like the two raw writers; it writes the
size of its buffer as `2 + len`. -/
theorem packTCPBuffer_eq (w : Bytes) : Gen.packTCPBuffer w = frame w := by
  unfold Gen.packTCPBuffer
  rw [Int.add_comm]
  exact writeRawMsgToTCP_eq w

end Refine.C16

import MosdnsVerif.Model.C17
import MosdnsVerif.Gen.FnUpstream

namespace Refine.C17
open Model.C17

/-- The mask test of the code is the TC bit: all 256 values of the flags byte. -/
theorem mask_is_tc (x : UInt8) : ((x &&& 2) != 0) = (x.toNat / 2 % 2 == 1) := by
  have h : ∀ x : Fin 256, ((UInt8.ofNat x.val &&& 2) != 0) = ((UInt8.ofNat x.val).toNat / 2 % 2 == 1) := by
    decide +kernel
  simpa using h ⟨x.toNat, x.toNat_lt⟩

theorem msgTruncated_eq (b : Bytes) : Gen.msgTruncated b = tcBit b := by
  unfold Gen.msgTruncated tcBit Go.idx
  simpa using mask_is_tc (b.getD 2 0)

theorem exchange_eq (udp tcp : Bytes → Except Nat Bytes) (q : Bytes) :
    Gen.udpWithFallbackExchange udp tcp q = exchange udp tcp q := by
  unfold Gen.udpWithFallbackExchange exchange
  cases h : udp q with
  | error e => rfl
  | ok r => simp [msgTruncated_eq]

end Refine.C17

import MosdnsVerif.Model.C18
import MosdnsVerif.Gen.FnUpstream

namespace Refine.C18
open Model.C18

theorem tryTrimIpv6Brackets_eq (s : Bytes) : Gen.tryTrimIpv6Brackets s = trimBrackets s := by
  have hlt : (s.length : Int) < 2 ↔ s.length < 2 := by omega
  have hlast : ((s.length : Int) - 1).toNat = s.length - 1 := by omega
  simp [Gen.tryTrimIpv6Brackets, trimBrackets, Go.idx, Go.slice, hlt, hlast, Nat.sub_sub]

end Refine.C18

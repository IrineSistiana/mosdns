import MosdnsVerif.Model.C20Time
import MosdnsVerif.Gen.FnFallback

/-!
# C20 - T1: the threshold `newFallbackPlugin` builds the plugin with

`Gen.fallbackThreshold` is regenerated from `newFallbackPlugin` (the value that
reaches `fastFallbackDuration` as a function of the configured `threshold`
argument). It is the model's `thresholdOf` with the default of 500 ms: every
positive configured threshold is used as it is, whatever its size.
-/
namespace Refine.C20
open Model.C20

theorem fallbackThreshold_eq (ms : Int) : Gen.fallbackThreshold ms = thresholdOf 500 ms := by
  have h : ms * 1000000 ≤ 0 ↔ ms ≤ 0 := by omega
  simp [Gen.fallbackThreshold, thresholdOf, msNs, h]

/-- **A configured threshold is the threshold.** For every positive `threshold`
argument - 1 ms, 4999 ms, 5000 ms, an hour - the plugin's timer duration is
exactly that many milliseconds. -/
theorem configured_threshold_honoured (ms : Int) (h : 0 < ms) : Gen.fallbackThreshold ms = ms * 1000000 := by
  rw [fallbackThreshold_eq, thresholdOf, if_neg (by omega)]
  rfl

/-- only a missing (non-positive) threshold gets the default -/
theorem default_only_when_unset (ms : Int) (h : ms ≤ 0) : Gen.fallbackThreshold ms = 500 * 1000000 := by
  rw [fallbackThreshold_eq, thresholdOf, if_pos h]
  rfl

end Refine.C20
